import DigModel.Proofs.Tree
import DigModel.Proofs.GhBound
/-
  What a graph holder means: the order recorded for a node in a scope points at that node in the scope's holder, and
  every constructor that provides something visible from a scope has its node in that scope's holder.  With these the
  edges `graphHolder.EdgesFrom` reads off the orders are the dependencies between constructors as seen from the scope.
-/
namespace Dig

structure GM0 (st : St) : Prop where
  /-- the recorded order of a node of the holder points at the node -/
  pos : ∀ s node, node ∈ (st.scope s).gh → (st.scope s).gh[nodeOrder st node s]? = some node
  /-- a constructor visible from `s` is a node of `s`'s holder -/
  prov : ∀ s k m, s < st.scopes.length → m ∈ st.allProviders s k → GNode.ctor m ∈ (st.scope s).gh
  /-- nodes of holders exist -/
  bnd : ∀ s node, node ∈ (st.scope s).gh → NodeValid st node

/-- only a scope that exists sees a constructor -/
theorem lt_of_mem_allProviders {st : St} {s : Nat} {k : Key} {m : Nat} (h : m ∈ st.allProviders s k) :
    s < st.scopes.length :=
  let ⟨_, ha, _⟩ := mem_allProviders.mp h
  ancestors_mem_lt ha

theorem GM0.pos_lt {st : St} (h : GM0 st) {s : Nat} {node : GNode} (hn : node ∈ (st.scope s).gh) :
    nodeOrder st node s < (st.scope s).gh.length :=
  lt_of_getElem? (h.pos s node hn)

theorem GM0.init : GM0 ({} : St) where
  pos s node h := by cases s <;> simp [St.scope] at h
  prov s k m hs h := by
    have : s = 0 := by simp at hs; omega
    subst this
    simp [St.allProviders, St.ancestors, ancestorsAux, St.scope, agetL, aget] at h
  bnd s node h := by cases s <;> simp [St.scope] at h

/-- same holders, same orders, same tree and providers -/
theorem GM0.transfer {a b : St} (h : GM0 a) (hl : b.scopes.length = a.scopes.length)
    (hg : ∀ s, (b.scope s).gh = (a.scope s).gh)
    (ho : ∀ node s, nodeOrder b node s = nodeOrder a node s)
    (hp : ∀ s k, b.allProviders s k = a.allProviders s k)
    (hv : ∀ node, NodeValid a node → NodeValid b node) : GM0 b where
  pos s node hn := by rw [hg s] at hn ⊢; rw [ho]; exact h.pos s node hn
  prov s k m hs hm := by rw [hg s]; rw [hp] at hm; exact h.prov s k m (by rw [← hl]; exact hs) hm
  bnd s node hn := by rw [hg s] at hn; exact hv node (h.bnd s node hn)

theorem allProviders_congr {a b : St} (hl : a.scopes.length = b.scopes.length)
    (hs : ∀ j, (a.scope j).parent = (b.scope j).parent ∧ (a.scope j).providers = (b.scope j).providers) (s : Nat) (k : Key) :
    a.allProviders s k = b.allProviders s k := by
  unfold St.allProviders
  have : a.ancestors s = b.ancestors s := by
    unfold St.ancestors
    rw [hl]
    exact ancestorsAux_congr _ _ hl (fun j => (hs j).1) _ _
  rw [this]
  exact flatMap_congr' _ _ _ (fun x _ => by rw [(hs x).2])

theorem GM0.graphSame {a b : St} (h : GM0 a) (hg : GraphSame a b) : GM0 b :=
  h.transfer hg.scopesLen.symm (fun s => (hg.gh s).symm)
    (fun node s => by cases node <;> simp only [nodeOrder, hg.ctor, hg.pgs])
    (fun s k => (hg.allProviders s k).symm)
    (fun _ hv => hv.mono (by rw [hg.ctors]; exact Nat.le_refl _) (by rw [hg.pgs]; exact Nat.le_refl _))

theorem GM0.regFrame {a b : St} (h : GM0 a) (hf : RegFrame a b) : GM0 b :=
  h.transfer hf.scopesLen.symm (fun s => (hf.scopeReg s).gh.symm)
    (fun node s => by
      cases node with
      | ctor m => simp only [nodeOrder]; rw [(hf.ctorStatic m).orders]
      | pg i => simp only [nodeOrder]; rw [hf.pgs])
    (fun s k => (allProviders_congr hf.scopesLen (fun j => ⟨(hf.scopeReg j).parent, (hf.scopeReg j).providers⟩) s k).symm)
    (fun _ hv => hv.mono (Nat.le_of_eq hf.ctorsLen) (by simp [hf.pgs]))

theorem GM0.eqButVerified {a b : St} (h : GM0 a) (he : EqButVerified a b) : GM0 b :=
  h.graphSame (graphSame_of_eqButVerified he)

theorem ghStep_gh_mono (node : GNode) (w : St) (sc j : Nat) : ∀ x ∈ (w.scope j).gh, x ∈ ((ghStep node w sc).scope j).gh := by
  intro x hx
  rw [ghStep_scope]
  split
  · simp [hx]
  · exact hx

theorem ghStep_allProviders (node : GNode) (w : St) (sc s : Nat) (k : Key) :
    (ghStep node w sc).allProviders s k = w.allProviders s k := by
  apply allProviders_congr (ghStep_len node w sc).1
  intro j
  rw [ghStep_scope]
  split <;> exact ⟨rfl, rfl⟩

theorem nodeValid_ghStep (node : GNode) (w : St) (sc : Nat) (y : GNode) (hy : NodeValid w y) : NodeValid (ghStep node w sc) y :=
  hy.mono (by simp [(ghStep_len node w sc).2.1]) (by simp [(ghStep_len node w sc).2.2])

theorem GM0.ghStep {w : St} (h : GM0 w) (node : GNode) (hv : NodeValid w node) (sc : Nat) : GM0 (Dig.ghStep node w sc) := by
  refine ⟨?_, ?_, ?_⟩
  · intro s x hx
    rw [ghStep_scope] at hx ⊢
    rw [ghStep_nodeOrder]
    by_cases hc : sc = s ∧ s < w.scopes.length
    · rw [if_pos hc] at hx ⊢
      obtain ⟨rfl, _⟩ := hc
      by_cases hxn : x = node
      · subst hxn; simp [hv]
      · have hx' : x ∈ (w.scope sc).gh := by simpa [hxn] using hx
        simp only [hxn, false_and, if_false]
        rw [List.getElem?_append_left (h.pos_lt hx')]; exact h.pos sc x hx'
    · rw [if_neg hc] at hx ⊢
      -- `s = sc` would be a scope that does not exist, with an empty holder
      have hs : s ≠ sc := by
        rintro rfl
        rw [scope_ge_len w s (by omega)] at hx; cases hx
      simp only [hs, and_false, if_false]; exact h.pos s x hx
  · intro s k m hs hm
    rw [ghStep_allProviders] at hm
    exact ghStep_gh_mono node w sc s _ (h.prov s k m (by rw [← (ghStep_len node w sc).1]; exact hs) hm)
  · intro s x hx
    rw [ghStep_scope] at hx
    split at hx
    · rcases List.mem_append.mp hx with hx | hx
      · exact nodeValid_ghStep node w sc x (h.bnd s x hx)
      · exact nodeValid_ghStep node w sc x (List.mem_singleton.mp hx ▸ hv)
    · exact nodeValid_ghStep node w sc x (h.bnd s x hx)

theorem GM0.foldGhStep (node : GNode) : ∀ (l : List Nat) (w : St), GM0 w → NodeValid w node →
    GM0 (l.foldl (Dig.ghStep node) w) ∧ NodeValid (l.foldl (Dig.ghStep node) w) node := by
  intro l
  induction l with
  | nil => intro w h hv; exact ⟨h, hv⟩
  | cons x xs ih => intro w h hv; exact ih _ (h.ghStep node hv x) (nodeValid_ghStep node w x node hv)

theorem GM0.newGraphNode {w : St} (h : GM0 w) (s : Nat) (node : GNode) (hv : NodeValid w node) :
    GM0 (w.newGraphNode s node) := by
  rw [newGraphNode_eq]; exact (GM0.foldGhStep node _ w h hv).1

/-- the fold keeps what is in the holders and the tree -/
theorem foldGhStep_facts (node : GNode) : ∀ (l : List Nat) (w : St),
    (l.foldl (Dig.ghStep node) w).scopes.length = w.scopes.length ∧
    (∀ j, ((l.foldl (Dig.ghStep node) w).scope j).parent = (w.scope j).parent ∧
          ((l.foldl (Dig.ghStep node) w).scope j).children = (w.scope j).children ∧
          ((l.foldl (Dig.ghStep node) w).scope j).providers = (w.scope j).providers) ∧
    (∀ j x, x ∈ (w.scope j).gh → x ∈ ((l.foldl (Dig.ghStep node) w).scope j).gh) ∧
    (∀ sc ∈ l, sc < w.scopes.length → node ∈ ((l.foldl (Dig.ghStep node) w).scope sc).gh) := by
  intro l
  induction l with
  | nil => intro w; exact ⟨rfl, fun _ => ⟨rfl, rfl, rfl⟩, fun _ _ h => h, fun _ h => by cases h⟩
  | cons x xs ih =>
    intro w
    simp only [List.foldl_cons]
    obtain ⟨a1, a2, a3, a4⟩ := ih (Dig.ghStep node w x)
    have hl := (ghStep_len node w x).1
    have hsc : ∀ j, ((Dig.ghStep node w x).scope j).parent = (w.scope j).parent ∧
        ((Dig.ghStep node w x).scope j).children = (w.scope j).children ∧
        ((Dig.ghStep node w x).scope j).providers = (w.scope j).providers := by
      intro j; rw [ghStep_scope]; split <;> exact ⟨rfl, rfl, rfl⟩
    refine ⟨a1.trans hl, fun j => ⟨(a2 j).1.trans (hsc j).1, (a2 j).2.1.trans (hsc j).2.1, (a2 j).2.2.trans (hsc j).2.2⟩,
      fun j y hy => a3 j y (ghStep_gh_mono node w x j y hy), ?_⟩
    intro sc hsc' hlt
    rcases List.mem_cons.mp hsc' with rfl | hm
    · apply a3
      rw [ghStep_scope, if_pos ⟨rfl, hlt⟩]
      simp
    · exact a4 sc hm (by rw [hl]; exact hlt)

/-- `newGraphNode` puts the node into the holder of every scope of the subtree -/
theorem newGraphNode_mem (w : St) (s : Nat) (node : GNode) (sc : Nat) (hsc : sc ∈ w.subscopes s) (hlt : sc < w.scopes.length) :
    node ∈ ((w.newGraphNode s node).scope sc).gh := by
  rw [newGraphNode_eq]
  exact (foldGhStep_facts node (w.subscopes s) w).2.2.2 sc hsc hlt

theorem TreeInv.newGraphNode {w : St} (h : TreeInv w) (s : Nat) (node : GNode) : TreeInv (w.newGraphNode s node) := by
  rw [newGraphNode_eq]
  obtain ⟨a1, a2, _, _⟩ := foldGhStep_facts node (w.subscopes s) w
  exact h.transfer a1 (fun j => ⟨(a2 j).1, (a2 j).2.1⟩)

theorem GM0.addCtor {w : St} (h : GM0 w) (node : CtorNode) : GM0 { w with ctors := w.ctors ++ [node] } where
  pos s x hx := by
    have e : nodeOrder { w with ctors := w.ctors ++ [node] } x s = nodeOrder w x s := by
      cases x with
      | ctor m => exact congrArg (orderOf ·.orders s) ((getD_append_fresh _ _ _ _).trans (if_pos (h.bnd s _ hx)))
      | pg i => rfl
    rw [e]; exact h.pos s x hx
  prov := h.prov
  bnd s x hx := (h.bnd s x hx).mono (by simp) (Nat.le_refl w.pgs.length)

theorem GM0.addPgs {w : St} (h : GM0 w) (l : List PGNode) : GM0 { w with pgs := w.pgs ++ l } where
  pos s x hx := by
    have e : nodeOrder { w with pgs := w.pgs ++ l } x s = nodeOrder w x s := by
      cases x with
      | ctor m => rfl
      | pg i => exact congrArg (orderOf ·.orders s) ((getD_append_fresh _ _ _ _).trans (if_pos (h.bnd s _ hx)))
    rw [e]; exact h.pos s x hx
  prov := h.prov
  bnd s x hx := (h.bnd s x hx).mono (Nat.le_refl w.ctors.length) (by simp)

theorem GM0.addDecos {w : St} (h : GM0 w) (l : List DecoNode) : GM0 { w with decos := l } :=
  ⟨h.pos, h.prov, h.bnd⟩

/-- a change of one scope that keeps its holder, its parent and its providers -/
theorem GM0.modScope {w : St} (h : GM0 w) (s : Nat) (f : ScopeSt → ScopeSt)
    (hf : ∀ x, (f x).gh = x.gh ∧ (f x).parent = x.parent ∧ (f x).providers = x.providers) : GM0 (w.modScope s f) :=
  h.transfer (by simp [St.modScope]) (fun j => by rw [scope_modScope]; split <;> simp [hf])
    (fun node j => by cases node <;> rfl)
    (fun j k => allProviders_congr (by simp [St.modScope])
      (fun i => by rw [scope_modScope]; split <;> simp [hf]) j k)
    (fun node hv => by cases node <;> exact hv)


theorem foldl_append_mem (keys : List Key) (n : Nat) : ∀ (m : List (Key × List Nat)) (k : Key) (x : Nat),
    x ∈ agetL (keys.foldl (fun m k => aset m k (agetL m k ++ [n])) m) k → x = n ∨ x ∈ agetL m k := by
  induction keys with
  | nil => intro m k x h; exact Or.inr h
  | cons k0 ks ih =>
    intro m k x h
    rcases ih _ k x h with h1 | h1
    · exact Or.inl h1
    · rw [agetL_aset] at h1
      split at h1
      · rename_i hk; subst hk
        exact (List.mem_append.mp h1).symm.imp List.mem_singleton.mp id
      · exact Or.inr h1

theorem ancestors_modScope (w : St) (s : Nat) (f : ScopeSt → ScopeSt) (hf : ∀ x, (f x).parent = x.parent) (j : Nat) :
    (w.modScope s f).ancestors j = w.ancestors j := by
  have hl : (w.modScope s f).scopes.length = w.scopes.length := by simp [St.modScope]
  unfold St.ancestors
  rw [hl]
  exact ancestorsAux_congr _ _ hl (fun i => by
    show ((w.modScope s f).scope i).parent = (w.scope i).parent
    rw [scope_modScope]; split <;> simp [hf]) _ _

/-- registering constructor `n` under `keys` in `target`, after its node was put into the holders of the subtree -/
theorem GM0.addProviders {w : St} (h : GM0 w) (ht : TreeInv w) (target n : Nat) (keys : List Key)
    (hin : ∀ sc ∈ w.subscopes target, sc < w.scopes.length → GNode.ctor n ∈ (w.scope sc).gh) :
    GM0 (w.modScope target fun x =>
      { x with providers := keys.foldl (fun m k => aset m k (agetL m k ++ [n])) (w.scope target).providers }) := by
  generalize hP : keys.foldl (fun m k => aset m k (agetL m k ++ [n])) (w.scope target).providers = P
  have hsc := fun j => scope_modScope w target j fun x => { x with providers := P }
  have hgh : ∀ j, ((w.modScope target fun x => { x with providers := P }).scope j).gh = (w.scope j).gh :=
    fun j => by rw [hsc]; split <;> rfl
  refine ⟨fun s x hx => ?_, fun s k m hs hm => ?_, fun s x hx => ?_⟩
  · rw [hgh] at hx ⊢; exact h.pos s x hx
  · have hs' : s < w.scopes.length := by simpa [St.modScope] using hs
    rw [hgh]
    obtain ⟨a, ha, hma⟩ := mem_allProviders.mp hm
    rw [ancestors_modScope w target (fun x => { x with providers := P }) (fun _ => rfl)] at ha
    rw [hsc] at hma
    split at hma
    · rename_i hc
      obtain ⟨rfl, _⟩ := hc
      subst hP
      rcases foldl_append_mem keys n _ k m hma with rfl | h1
      · exact hin s (mem_subscopes_of_mem_ancestors ht ha) hs'
      · exact h.prov s k m hs' (mem_allProviders.mpr ⟨target, ha, h1⟩)
    · exact h.prov s k m hs' (mem_allProviders.mpr ⟨a, ha, hma⟩)
  · rw [hgh] at hx; exact h.bnd s x hx

/-! ### paths to the root, when scopes are appended -/

def WFParents (a : List ScopeSt) : Prop := ∀ (j : Nat) (sc : ScopeSt), a[j]? = some sc → ∀ p, sc.parent = some p → p < j

theorem TreeInv.wfParents {st : St} (h : TreeInv st) : WFParents st.scopes := by
  intro j sc hj p hp
  obtain ⟨hl, e⟩ := scope_of_getElem? hj
  subst e
  exact (h.up j hl p hp).1

theorem ancestorsAux_prefix (a b : List ScopeSt) (n : Nat) (hwf : WFParents a)
    (hsame : ∀ j, j < n → ∃ x y : ScopeSt, a[j]? = some x ∧ b[j]? = some y ∧ x.parent = y.parent) :
    ∀ fuel s, s < n → ancestorsAux b fuel s = ancestorsAux a fuel s := by
  intro fuel
  induction fuel with
  | zero => intro s _; rfl
  | succ fuel ih =>
    intro s hs
    obtain ⟨x, y, hx, hy, hp⟩ := hsame s hs
    simp only [ancestorsAux, hx, hy, ← hp]
    cases hpar : x.parent with
    | none => rfl
    | some p => exact congrArg _ (ih p (Nat.lt_trans (hwf s x hx p hpar) hs))

/-- parents have smaller indexes, so any fuel above `s` gives the whole path of `s` -/
theorem ancestorsAux_fuel (a : List ScopeSt) (hwf : WFParents a) : ∀ f f' s, s < f → s < f' →
    ancestorsAux a f s = ancestorsAux a f' s := by
  intro f
  induction f with
  | zero => intro f' s h; exact absurd h (Nat.not_lt_zero _)
  | succ f ih =>
    intro f' s hf hf'
    cases f' with
    | zero => exact absurd hf' (Nat.not_lt_zero _)
    | succ f' =>
      cases hx : a[s]? with
      | none => simp only [ancestorsAux, hx]
      | some x =>
        cases hpar : x.parent with
        | none => simp only [ancestorsAux, hx, hpar]
        | some p =>
          have hps := hwf s x hx p hpar
          simp only [ancestorsAux, hx, hpar]
          exact congrArg _ (ih f' p (Nat.lt_of_lt_of_le hps (Nat.le_of_lt_succ hf))
            (Nat.lt_of_lt_of_le hps (Nat.le_of_lt_succ hf')))

/-- the paths after `Scope.Scope(name)`: old scopes keep theirs, the child's is itself followed by its parent's -/
theorem apiScope_ancestors_wf {st : St} (hwf : WFParents st.scopes) (parent : Nat) (hp : parent < st.scopes.length) :
    (∀ s, s < st.scopes.length → (apiScope st parent).ancestors s = st.ancestors s) ∧
    (apiScope st parent).ancestors st.scopes.length = st.scopes.length :: st.ancestors parent := by
  obtain ⟨hlen, hsc⟩ := apiScope_scope st parent hp
  have hsame : ∀ j, j < st.scopes.length → ∃ x y : ScopeSt, st.scopes[j]? = some x ∧ (apiScope st parent).scopes[j]? = some y ∧
      x.parent = y.parent := by
    intro j hj
    exact ⟨st.scope j, (apiScope st parent).scope j, getElem?_scope hj, getElem?_scope (by rw [hlen]; omega),
      (apiScope_scope_old st parent hp (by omega)).1.symm⟩
  have hpre := ancestorsAux_prefix st.scopes _ st.scopes.length hwf hsame (st.scopes.length + 1)
  unfold St.ancestors
  rw [hlen]
  refine ⟨fun s hs => (hpre s hs).trans (ancestorsAux_fuel st.scopes hwf _ _ s (by omega) hs), ?_⟩
  have hchild : (apiScope st parent).scopes[st.scopes.length]? = some { parent := some parent, gh := (st.scope parent).gh } := by
    rw [getElem?_scope (by rw [hlen]; omega), hsc, if_pos rfl]
  rw [ancestorsAux, hchild]
  exact congrArg _ (ancestorsAux_prefix st.scopes _ st.scopes.length hwf hsame _ parent hp)

theorem apiScope_ancestors {st : St} (ht : TreeInv st) (parent : Nat) (hp : parent < st.scopes.length) :
    (∀ s, s < st.scopes.length → (apiScope st parent).ancestors s = st.ancestors s) ∧
    (apiScope st parent).ancestors st.scopes.length = st.scopes.length :: st.ancestors parent :=
  apiScope_ancestors_wf ht.wfParents parent hp

theorem apiScope_allProviders {st : St} (ht : TreeInv st) (parent : Nat) (hp : parent < st.scopes.length) (k : Key) :
    (∀ s, s < st.scopes.length → (apiScope st parent).allProviders s k = st.allProviders s k) ∧
    (apiScope st parent).allProviders st.scopes.length k = st.allProviders parent k := by
  obtain ⟨hlen, hsc⟩ := apiScope_scope st parent hp
  obtain ⟨hold, hchild⟩ := apiScope_ancestors ht parent hp
  have hflat : ∀ s, (st.ancestors s).flatMap (fun a => agetL ((apiScope st parent).scope a).providers k) =
      st.allProviders s k := by
    intro s
    exact flatMap_congr' _ _ _ fun a ha => by
      rw [(apiScope_scope_old st parent hp (Nat.ne_of_lt (lt_of_mem_ancestorsAux ha))).2.1]
  refine ⟨fun s hs => ?_, ?_⟩
  · unfold St.allProviders
    rw [hold s hs]
    exact hflat s
  · unfold St.allProviders
    rw [hchild, List.flatMap_cons, hflat parent, hsc, if_pos rfl]
    rfl

theorem copyOrder_nodeOrder (child parent : Nat) (w : St) (y x : GNode) (s : Nat) :
    nodeOrder (copyOrder child parent w y) x s =
      if s = child ∧ x = y ∧ NodeValid w x then nodeOrder w x parent else nodeOrder w x s := by
  rw [nodeOrder_eq, copyOrder_eq, nodeOrders_modOrders]
  by_cases h : y = x ∧ NodeValid w x
  · obtain ⟨rfl, hv⟩ := h
    simp only [hv, and_self, if_true, and_true, orderOf_setOrder, ← nodeOrder_eq]
  · rw [if_neg h, ← nodeOrder_eq, if_neg]
    rintro ⟨_, rfl, hv⟩
    exact h ⟨rfl, hv⟩

theorem copyOrder_valid (child parent : Nat) (w : St) (y x : GNode) : NodeValid (copyOrder child parent w y) x ↔ NodeValid w x := by
  cases y <;> cases x <;> simp [copyOrder, NodeValid, St.modCtor]

theorem copyOrderFold_nodeOrder (child parent : Nat) (hne : child ≠ parent) : ∀ (l : List GNode) (w : St) (x : GNode) (s : Nat),
    nodeOrder (l.foldl (copyOrder child parent) w) x s =
      if s = child ∧ x ∈ l ∧ NodeValid w x then nodeOrder w x parent else nodeOrder w x s := by
  intro l
  induction l with
  | nil => intro w x s; simp
  | cons y ys ih =>
    intro w x s
    simp only [List.foldl_cons]
    rw [ih]
    have hpar : nodeOrder (copyOrder child parent w y) x parent = nodeOrder w x parent := by
      rw [copyOrder_nodeOrder, if_neg (fun h => hne h.1.symm)]
    by_cases hs : s = child
    · subst hs
      by_cases hv : NodeValid w x
      · have hv' : NodeValid (copyOrder s parent w y) x := (copyOrder_valid s parent w y x).mpr hv
        by_cases hxy : x = y
        · subst hxy
          by_cases hin : x ∈ ys
          · simp [hin, hv, hv', hpar]
          · simp [hin, hv, copyOrder_nodeOrder]
        · by_cases hin : x ∈ ys
          · simp [hin, hv, hv', hpar]
          · simp [hin, hv, hxy, copyOrder_nodeOrder]
      · have hv' : ¬ NodeValid (copyOrder s parent w y) x := fun h => hv ((copyOrder_valid s parent w y x).mp h)
        simp [hv, hv', copyOrder_nodeOrder]
    · simp [hs, copyOrder_nodeOrder]

theorem copyOrderFold_lens (child parent : Nat) : ∀ (l : List GNode) (w : St),
    (l.foldl (copyOrder child parent) w).ctors.length = w.ctors.length ∧
    (l.foldl (copyOrder child parent) w).pgs.length = w.pgs.length := by
  intro l
  induction l with
  | nil => exact fun w => ⟨rfl, rfl⟩
  | cons y ys ih =>
    intro w
    obtain ⟨a, b⟩ := ih (copyOrder child parent w y)
    rw [copyOrder_eq] at a b
    exact ⟨a.trans (modOrders_lens _ _ _).1, b.trans (modOrders_lens _ _ _).2⟩

/-- the holders after `Scope.Scope(name)`: the child's is a copy of its parent's -/
theorem apiScope_gh (st : St) (parent j : Nat) :
    ((apiScope st parent).scope j).gh = if j = st.scopes.length then (st.scope parent).gh else (st.scope j).gh := by
  show ((apiScope st parent).scopes.getD j { parent := none }).gh = _
  rw [(apiScope_shape st parent).2, getD_modify]
  have e : ((st.scopes ++ [({ parent := some parent, gh := (st.scope parent).gh } : ScopeSt)]).getD j
      { parent := none }).gh = if j = st.scopes.length then (st.scope parent).gh else (st.scope j).gh := by
    rw [getD_snoc]
    split
    · rw [if_neg (by omega)]; rfl
    · split
      · rfl
      · rw [scope_ge_len st j (by omega)]
  split
  · exact e
  · exact e

/-- ... and so are the orders recorded for the child -/
theorem nodeOrder_apiScope (st : St) (parent : Nat) (hp : parent < st.scopes.length) (x : GNode) (s : Nat) :
    nodeOrder (apiScope st parent) x s =
      if s = st.scopes.length ∧ x ∈ (st.scope parent).gh ∧ NodeValid st x then nodeOrder st x parent else nodeOrder st x s :=
  copyOrderFold_nodeOrder _ _ (by omega) _ _ x s

theorem nodeValid_apiScope (st : St) (parent : Nat) {x : GNode} (hx : NodeValid st x) : NodeValid (apiScope st parent) x :=
  have h := copyOrderFold_lens st.scopes.length parent (st.scope parent).gh
    ((({ st with scopes := st.scopes ++ [{ parent := some parent, gh := (st.scope parent).gh }] } : St).modScope parent
      fun x => { x with children := x.children ++ [st.scopes.length] }))
  hx.mono (Nat.le_of_eq h.1.symm) (Nat.le_of_eq h.2.symm)

theorem GM0.scope {st : St} (h : GM0 st) (ht : TreeInv st) (parent : Nat) (hp : parent < st.scopes.length) :
    GM0 (apiScope st parent) := by
  refine ⟨fun s x hx => ?_, fun s k m hs hm => ?_, fun s x hx => ?_⟩
  · rw [apiScope_gh st parent] at hx ⊢
    rw [nodeOrder_apiScope st parent hp]
    by_cases h1 : s = st.scopes.length
    · rw [if_pos h1] at hx ⊢
      rw [if_pos ⟨h1, hx, h.bnd parent x hx⟩]
      exact h.pos parent x hx
    · rw [if_neg h1] at hx ⊢
      rw [if_neg (fun hh => h1 hh.1)]
      exact h.pos s x hx
  · rw [(apiScope_scope st parent hp).1] at hs
    obtain ⟨hold, hchild⟩ := apiScope_allProviders ht parent hp k
    rw [apiScope_gh st parent]
    by_cases h1 : s = st.scopes.length
    · subst h1
      rw [if_pos rfl]
      rw [hchild] at hm
      exact h.prov parent k m hp hm
    · rw [if_neg h1]
      have hs' : s < st.scopes.length := by omega
      rw [hold s hs'] at hm
      exact h.prov s k m hs' hm
  · rw [apiScope_gh st parent] at hx
    split at hx
    · exact nodeValid_apiScope st parent (h.bnd parent x hx)
    · exact nodeValid_apiScope st parent (h.bnd s x hx)

end Dig
