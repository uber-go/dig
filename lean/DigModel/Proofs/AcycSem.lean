import DigModel.Proofs.PgInv
/-
  Every edge of a scope's holder graph is a dependency between the nodes at its ends, so a cycle the check reports is
  a real dependency cycle, and "the check answers acyclic" ⇔ "there is no closed chain of dependencies among the nodes
  of the holder".
-/
namespace Dig

theorem edge_is_dependency {st : St} (hg : GM0 st) (hp : PG st) (s : Nat) (u v : Nat) (x : GNode)
    (hu : (st.scope s).gh[u]? = some x) (hv : v ∈ edgesFrom st s u) :
    ∃ y, (st.scope s).gh[v]? = some y ∧ NodeDep st s x y := by
  cases x with
  | ctor n =>
    rw [edgesFrom_ctor hu, mem_paramOrdersList] at hv
    rcases hv with ⟨k, hk, m, hm, rfl⟩ | ⟨i, hi, rfl⟩
    · exact ⟨.ctor m, hg.pos s _ (hg.prov s k m (lt_of_mem_allProviders hm) hm), .single hk hm⟩
    · exact ⟨.pg i, hg.pos s _ (hp.pgIn s n i (List.mem_of_getElem? hu) hi), .toGroup hi⟩
  | pg i =>
    rw [edgesFrom_pg hu] at hv
    obtain ⟨m, hm, rfl⟩ := List.mem_map.mp hv
    exact ⟨.ctor m, hg.pos s (.ctor m) (hg.prov s _ m (lt_of_mem_allProviders hm) hm), .fromGroup hm⟩

theorem edge_nodes {st : St} (hg : GM0 st) (hp : PG st) (s : Nat) {u v : Nat}
    (hv : v ∈ edgesFrom st s u) :
    ∃ x y, (st.scope s).gh[u]? = some x ∧ (st.scope s).gh[v]? = some y ∧ NodeDep st s x y := by
  obtain ⟨x, hx⟩ := source_of_mem_edgesFrom hv
  obtain ⟨y, hy, hd⟩ := edge_is_dependency hg hp s u v x hx hv
  exact ⟨x, y, hx, hy, hd⟩

theorem reported_cycle_is_real {st : St} (hg : GM0 st) (hp : PG st) (s : Nat) (path : List Nat)
    (h : checkAcyclic st s = .cycle path) :
    2 ≤ path.length ∧ path.head? = path.getLast? ∧
    ∀ j u v, path[j]? = some u → path[j + 1]? = some v →
      ∃ x y, (st.scope s).gh[u]? = some x ∧ (st.scope s).gh[v]? = some y ∧ NodeDep st s x y := by
  have hc := Dfs.isAcyclic_cycle (edgesFrom st s) (st.scope s).gh.length path (checkAcyclic_cycle st s path h)
  exact ⟨hc.2.1, hc.2.2, fun j u v hu hv => edge_nodes hg hp s (Dfs.isWalk_getElem? hc.1 hu hv)⟩

def NoCycle (st : St) (s : Nat) : Prop :=
  ¬ ∃ (a : GNode) (l : List GNode) (_ : l ≠ []), (∀ x ∈ a :: l, x ∈ (st.scope s).gh) ∧ NodeChain st s (a :: l) ∧
      (a :: l).getLast (by simp) = a

def nodeAt (st : St) (s u : Nat) : GNode := (st.scope s).gh.getD u default

theorem nodeAt_eq {st : St} {s u : Nat} {x : GNode} (h : (st.scope s).gh[u]? = some x) : nodeAt st s u = x := by
  rw [nodeAt, List.getD_eq_getElem?_getD, h]; rfl

theorem walk_chain {st : St} (hg : GM0 st) (hp : PG st) (s : Nat) :
    ∀ (l : List Nat) (a : Nat), l ≠ [] → Dfs.IsWalk (edgesFrom st s) (a :: l) →
      NodeChain st s ((a :: l).map (nodeAt st s)) ∧ ∀ u ∈ a :: l, nodeAt st s u ∈ (st.scope s).gh := by
  intro l
  induction l with
  | nil => intro a h; exact absurd rfl h
  | cons b l ih =>
    intro a _ hw
    obtain ⟨x, y, hx, hy, hd⟩ := edge_nodes hg hp s hw.1
    rw [← nodeAt_eq hx, ← nodeAt_eq hy] at hd
    have ha : nodeAt st s a ∈ (st.scope s).gh := nodeAt_eq hx ▸ List.mem_of_getElem? hx
    cases l with
    | nil =>
      refine ⟨⟨hd, trivial⟩, fun u hu => ?_⟩
      rcases List.mem_cons.mp hu with rfl | hu
      · exact ha
      · exact List.mem_singleton.mp hu ▸ nodeAt_eq hy ▸ List.mem_of_getElem? hy
    | cons c l =>
      obtain ⟨h1, h2⟩ := ih b (List.cons_ne_nil _ _) hw.2
      refine ⟨⟨hd, h1⟩, fun u hu => ?_⟩
      rcases List.mem_cons.mp hu with rfl | hu
      · exact ha
      · exact h2 u hu

theorem acyclic_iff_noCycle {st : St} (hg : GM0 st) (hp : PG st) (ho : OB st) (s : Nat) :
    checkAcyclic st s = .acyclic ↔ NoCycle st s := by
  constructor
  · intro hac ⟨a, l, hl, hin, hc, hclosed⟩
    obtain ⟨path, hpth⟩ := node_cycle_is_found hg ho s a l hl hin hc hclosed
    rw [hpth] at hac; cases hac
  · intro hno
    rcases checkAcyclic_decides ho s with hc | ⟨path, hc⟩
    · exact hc
    · obtain ⟨hwalk, hlen2, hhl⟩ := Dfs.isAcyclic_cycle _ _ path (checkAcyclic_cycle st s path hc)
      cases path with
      | nil => exact absurd hlen2 (by decide)
      | cons a rest =>
        cases rest with
        | nil => exact absurd hlen2 (Nat.lt_irrefl _)
        | cons b l =>
          obtain ⟨h1, h2⟩ := walk_chain hg hp s (b :: l) a (List.cons_ne_nil _ _) hwalk
          refine absurd ⟨nodeAt st s a, (b :: l).map (nodeAt st s), List.cons_ne_nil _ _, ?_, h1, ?_⟩ hno
          · intro x hx
            obtain ⟨u, hu, rfl⟩ := List.mem_map.mp (show x ∈ (a :: b :: l).map (nodeAt st s) from hx)
            exact h2 u hu
          · show ((a :: b :: l).map (nodeAt st s)).getLast (List.cons_ne_nil _ _) = _
            rw [List.getLast?_eq_some_getLast (List.cons_ne_nil _ _)] at hhl
            rw [List.getLast_map, ← Option.some.inj hhl]

end Dig
