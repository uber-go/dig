import DigModel.Proofs.Reach
import DigModel.Proofs.Shape
import DigModel.Proofs.Parse
/-
  Laziness of `Invoke`, stated on the container as it was when Invoke was called.
-/
namespace Dig

structure SameView (a b : St) : Prop where
  anc : ∀ s, a.ancestors s = b.ancestors s
  scope : ∀ s, (a.scope s).decorators = (b.scope s).decorators ∧ (a.scope s).providers = (b.scope s).providers
  ctor : ∀ n, (a.ctor n).params = (b.ctor n).params ∧ (a.ctor n).origS = (b.ctor n).origS
  deco : ∀ d, (a.deco d).params = (b.deco d).params ∧ (a.deco d).s = (b.deco d).s

theorem nearestProv_view {a b : St} (h : SameView a b) (k : Key) : ∀ anc, nearestProv a k anc = nearestProv b k anc := by
  intro anc
  induction anc with
  | nil => rfl
  | cons s rest ih => simp only [nearestProv, (h.scope s).2, ih]

theorem reach_view {a b : St} (h : SameView a b) {c : Nat} {l : Lf} {w : Who} (hr : Reach a c l w) : Reach b c l w := by
  induction hr with
  | decoSelf hs hd => exact Reach.decoSelf (by rw [← h.anc]; exact hs) (by rw [← (h.scope _).1]; exact hd)
  | decoDep hs hd hl _ ih =>
    refine Reach.decoDep (by rw [← h.anc]; exact hs) (by rw [← (h.scope _).1]; exact hd) (by rw [← (h.deco _).1]; exact hl) ?_
    rw [← (h.deco _).2]; exact ih
  | provSelf hn hm => exact Reach.provSelf (by rw [← h.anc, ← nearestProv_view h]; exact hn) hm
  | provDep hn hm hl _ ih =>
    refine Reach.provDep (by rw [← h.anc, ← nearestProv_view h]; exact hn) hm (by rw [← (h.ctor _).1]; exact hl) ?_
    rw [← (h.ctor _).2]; exact ih
  | grpSelf hs hn => exact Reach.grpSelf (by rw [← h.anc]; exact hs) (by rw [← (h.scope _).2]; exact hn)
  | grpDep hs hn hl _ ih =>
    refine Reach.grpDep (by rw [← h.anc]; exact hs) (by rw [← (h.scope _).2]; exact hn) (by rw [← (h.ctor _).1]; exact hl) ?_
    rw [← (h.ctor _).2]; exact ih

theorem SameView.symm {a b : St} (h : SameView a b) : SameView b a :=
  ⟨fun s => (h.anc s).symm, fun s => ⟨(h.scope s).1.symm, (h.scope s).2.symm⟩,
   fun n => ⟨(h.ctor n).1.symm, (h.ctor n).2.symm⟩, fun d => ⟨(h.deco d).1.symm, (h.deco d).2.symm⟩⟩

theorem sameView_regFrame {a b : St} (h : RegFrame a b) : SameView a b :=
  ⟨regFrame_ancestors h, fun s => ⟨(h.scopeReg s).decorators, (h.scopeReg s).providers⟩,
   fun n => ⟨(h.ctorStatic n).params, (h.ctorStatic n).origS⟩, fun d => ⟨(h.decoStatic d).params, (h.decoStatic d).s⟩⟩

theorem sameView_ghOnly {a b : St} (h : GhOnly a b) : SameView a b :=
  ⟨ancestors_congr h.scopesLen fun j => (h.scope j).1,
    fun s => ⟨(h.scope s).decorators, (h.scope s).providers⟩,
    fun n => by simp [St.ctor, h.ctors], fun d => by simp [St.deco, h.decos]⟩

theorem sameView_trans {a b c : St} (h1 : SameView a b) (h2 : SameView b c) : SameView a c :=
  ⟨fun s => (h1.anc s).trans (h2.anc s), fun s => ⟨(h1.scope s).1.trans (h2.scope s).1, (h1.scope s).2.trans (h2.scope s).2⟩,
   fun n => ⟨(h1.ctor n).1.trans (h2.ctor n).1, (h1.ctor n).2.trans (h2.ctor n).2⟩,
   fun d => ⟨(h1.deco d).1.trans (h2.deco d).1, (h1.deco d).2.trans (h2.deco d).2⟩⟩

theorem sameView_modVerified (w : St) (s : Nat) (b : Bool) : SameView w (w.modScope s fun x => { x with verified := b }) := by
  have hsc : ∀ j, (w.scope j).parent = ((w.modScope s fun x => { x with verified := b }).scope j).parent ∧
      (w.scope j).decorators = ((w.modScope s fun x => { x with verified := b }).scope j).decorators ∧
      (w.scope j).providers = ((w.modScope s fun x => { x with verified := b }).scope j).providers := by
    intro j; rw [scope_modScope]; split <;> exact ⟨rfl, rfl, rfl⟩
  exact ⟨ancestors_congr (List.length_modify ..).symm fun j => (hsc j).1, fun j => (hsc j).2,
    fun _ => ⟨rfl, rfl⟩, fun _ => ⟨rfl, rfl⟩⟩

theorem callBody_invoked_only (ctx : Ctx) (fn : Fn) (args : List Val) (st : St) :
    Only (fun w => w = .invoked) st (callBody ctx .invoked fn args st).2 := by
  by_cases hd : ctx.cfg.dry = true
  · rw [callBody_dry ctx hd]; exact Only.refl _ _
  · rw [callBody_spec ctx (by simpa using hd)]
    refine ⟨bodyEvents ctx .invoked fn args st, rfl, ?_⟩
    intro e he w f x a heq
    unfold bodyEvents at he
    simp only [List.mem_cons, List.not_mem_nil, or_false] at he
    rcases he with rfl | rfl
    · cases heq; rfl
    · cases heq

/-- **only the dependency closure runs**: every function entered during an Invoke is the invoked function itself or
    belongs to a constructor or decorator reachable — in the container as it was when Invoke was called — from a
    parameter of the invoked function, seen from the invoking scope -/
theorem apiInvoke_only (ctx : Ctx) (fn : Fn) (st : St) (s : Nat) (info : Bool) (hlog : st.log = []) :
    ∀ e ∈ (apiInvoke ctx fn st s info).2.ev, ∀ w f x args, e = Event.enter w f x args →
      w = .invoked ∨ ∃ params w0, parseParams ctx.env st s fn = (.ok params, w0) ∧ ∃ l ∈ leavesL params, Reach st s l w := by
  refine apiInvoke_cases (P := fun r => ∀ e ∈ r.2.ev, ∀ w f x args, e = Event.enter w f x args →
    w = .invoked ∨ ∃ params w0, parseParams ctx.env st s fn = (.ok params, w0) ∧ ∃ l ∈ leavesL params, Reach st s l w)
    (fun _ _ _ he => nomatch he) (fun _ _ _ _ _ he => nomatch he) (fun _ _ _ _ _ _ _ _ he => nomatch he)
    (fun _ _ _ _ _ _ _ _ he => nomatch he) ?_
  intro _ params w w3 hpp _ hck
  have hg := ghOnly_parseParams ctx.env st s fn
  rw [hpp] at hg
  -- `w3` is `w` up to the verified flag
  have hview : SameView w3 st := by
    refine (sameView_trans (sameView_ghOnly hg) ?_).symm
    rcases invokeCheck_ok hck with e | ⟨_, e⟩ <;> rw [e]
    · exact sameView_regFrame (RegFrame.refl _)
    · exact sameView_modVerified _ _ _
  have hbuild := ((engine_only ctx w3 (engineFuel w3 params)).2.2.2.2.2 params s w3 (RegFrame.refl _)).2
  have hrun : Only (fun v => v = .invoked ∨ ∃ l ∈ leavesL params, Reach w3 s l v) w3
      (invokeRun ctx fn params s info w3).1 :=
    invokeRun_inv (hbuild.mono fun _ => Or.inr) fun args w4 hb =>
      ((hb ▸ hbuild).mono fun _ => Or.inr).trans ((callBody_invoked_only ctx fn args w4).mono fun _ => Or.inl)
  obtain ⟨l, hl, hp⟩ := hrun
  rw [invoke_log_nil hlog hpp hck, List.nil_append] at hl
  intro e he v f x args heq
  rw [invokeRun_ev, hl] at he
  exact (hp e he v f x args heq).imp_right fun ⟨l, hl, hr⟩ => ⟨params, w, hpp, l, hl, reach_view hview hr⟩

end Dig
