import DigModel.Api
/-
  `apiInvoke` with its two last stages named (definitionally the same function).
-/
namespace Dig

def invokeCheck (w : St) (s : Nat) : Except Verdict St :=
  if (w.scope s).verified then .ok w
  else match checkAcyclic w s with
    | .acyclic => .ok (w.modScope s fun x => { x with verified := true })
    | .cycle p => .error (.err (.invalid (.cycle (cyclePath w s p) s)))
    | _ => .error .panicDig

def invokeRun (ctx : Ctx) (fn : Fn) (params : List Param) (s : Nat) (info : Bool) (w : St) : St × OpRes :=
  match EM.wrapErr (buildList ctx (engineFuel w params) params s) .argsFailed w with
  | (.error f, w) => (w, { v := failToVerdict f, ev := w.log })
  | (.ok args, w) =>
    let inf : Option InfoOut :=
      if info then some { id := 0, ins := dotParams params, outs := [] } else none
    match callBody ctx .invoked fn args w with
    | (r, w) =>
      let v : Verdict := match r with
        | .dry => .ok
        | .ok _ _ => .ok
        | .err x out =>
          if out + 1 == fn.outs.length then .err (.user fn.id x) else .ok
        | .panic x => if ctx.cfg.recover then .err (.panicErr fn.id x) else .panicUser fn.id x
      (w, { v := v, ev := w.log, info := inf })

def apiInvoke' (ctx : Ctx) (fn : Fn) (st : St) (s : Nat) (info : Bool) : St × OpRes :=
  match fn.nonfunc with
  | some _ => (st, { v := .err .invalid0 })
  | none =>
    match parseParams ctx.env st s fn with
    | (.error e, w) => (rollbackProvide st w s (st.subscopes s), { v := .err e })
    | (.ok params, w) =>
      match shallowCheck s params w with
      | (.error f, w) => (w, { v := failToVerdict f })
      | (.ok (), w) =>
        match invokeCheck w s with
        | .error v => (w, { v := v })
        | .ok w => invokeRun ctx fn params s info w

theorem apiInvoke_eq (ctx : Ctx) (fn : Fn) (st : St) (s : Nat) (info : Bool) :
    apiInvoke ctx fn st s info = apiInvoke' ctx fn st s info := by
  unfold apiInvoke apiInvoke' invokeCheck invokeRun
  rfl

end Dig
