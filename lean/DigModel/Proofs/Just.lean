import DigModel.Proofs.InvRel
/-
  Cache justification for single values: in every reachable state, a value cached under key `k` in
  scope `S` is exactly what a successful execution of a constructor registered *in that scope* returned
  in the result slot that declares `k`; that constructor is marked built.  On the way: what extraction writes to
  `values` and what it keeps, and a scope after a tail (`ctorTail_scope_cases`).
-/
namespace Dig

/-! ### the single keys a result tree declares, with the slot and the declared type they are filled from -/

mutual
def singleLeaves : Result → List (Key × Nat × Nat)
  | .single slot decl ty name as => (ty :: as).map fun t => (({ ty := t, name := name, group := "" } : Key), slot, decl)
  | .grouped _ _ _ _ _ _ => []
  | .object _ fs => singleLeavesL fs
def singleLeavesL : List Result → List (Key × Nat × Nat)
  | [] => []
  | r :: rs => singleLeaves r ++ singleLeavesL rs
end

def slotLeaves : List RSlot → List (Key × Nat × Nat)
  | [] => []
  | .err :: rest => slotLeaves rest
  | .val r :: rest => singleLeaves r ++ slotLeaves rest

theorem mem_singleLeaves (k : Key) (slot decl : Nat) (x : Result) :
    (k, slot, decl) ∈ singleLeaves x ↔ CW.val k slot decl ∈ resultWrites x := by
  apply decoWrites.induct (fun x => (k, slot, decl) ∈ singleLeaves x ↔ CW.val k slot decl ∈ resultWrites x)
    (fun xs => (k, slot, decl) ∈ singleLeavesL xs ↔ CW.val k slot decl ∈ resultWritesL xs)
  · intro s d ty name as
    simp only [singleLeaves, resultWrites, List.mem_map, Prod.mk.injEq, CW.val.injEq]
  · intro s d ty group flatten as
    cases flatten <;> simp [singleLeaves, resultWrites]
  · intro ty fs ih; simp only [singleLeaves, resultWrites]; exact ih
  · simp only [singleLeavesL, resultWritesL, List.not_mem_nil]
  · intro x xs ih1 ih2; simp only [singleLeavesL, resultWritesL, List.mem_append, ih1, ih2]

theorem mem_slotLeaves (env : TyEnv) (k : Key) (slot decl : Nat) : ∀ (slots : List RSlot),
    (k, slot, decl) ∈ slotLeaves slots ↔ CW.val k slot decl ∈ writes env false slots := by
  intro slots
  induction slots with
  | nil => simp only [slotLeaves, writes, List.not_mem_nil]
  | cons s rest ih =>
    cases s with
    | err => exact ih
    | val x => simp [slotLeaves, writes, mem_singleLeaves, ih]

theorem extractSlots_values (env : TyEnv) (r : Ret) (slots : List RSlot) (sc : ScopeSt) (k : Key) (v : Val)
    (h : aget (extractSlots env false r sc slots).values k = some v) :
    aget sc.values k = some v ∨ ∃ slot decl, (k, slot, decl) ∈ slotLeaves slots ∧ v = r.val env slot decl := by
  rw [extractSlots_eq_foldl] at h
  simp only [mem_slotLeaves env]
  exact foldl_apply_from env r .values _ sc k v h

theorem extractSlots_deco_plain (env : TyEnv) (r : Ret) (slots : List RSlot) (sc : ScopeSt) :
    (extractSlots env true r sc slots).values = sc.values ∧ (extractSlots env true r sc slots).groups = sc.groups := by
  apply extractSlots_inv env true r slots (fun sc' => sc'.values = sc.values ∧ sc'.groups = sc.groups) sc _ ⟨rfl, rfl⟩
  intro sc' w hw h
  have hd := writes_deco env true slots w hw
  cases w with
  | val => cases hd
  | grp => cases hd
  | dval => exact h
  | dgrp => exact h

theorem extractSlots_deco_values (env : TyEnv) (r : Ret) (slots : List RSlot) (sc : ScopeSt) :
    (extractSlots env true r sc slots).values = sc.values := (extractSlots_deco_plain env r slots sc).1

theorem extractSlots_keeps (env : TyEnv) (r : Ret) (slots : List RSlot) (sc : ScopeSt) (k : Key)
    (h : (aget sc.values k).isSome = true) : (aget (extractSlots env false r sc slots).values k).isSome = true := by
  rw [extractSlots_eq_foldl]; exact foldl_apply_keeps env r .values _ sc k h

theorem extractResult_keeps (env : TyEnv) (r : Ret) (sc : ScopeSt) (x : Result) (k : Key)
    (h : (aget sc.values k).isSome = true) : (aget (extractResult env r sc x).values k).isSome = true := by
  rw [extractResult_eq_foldl]; exact foldl_apply_keeps env r .values _ sc k h

theorem extractSlots_writes (env : TyEnv) (r : Ret) (slots : List RSlot) (sc : ScopeSt) :
    ∀ y ∈ slotLeaves slots, (aget (extractSlots env false r sc slots).values y.1).isSome = true := by
  intro y hy
  rw [extractSlots_eq_foldl]
  exact foldl_apply_written env r .values y.1 y.2.1 y.2.2 _ sc ((mem_slotLeaves env _ _ _ slots).mp hy)

def VJ (env : TyEnv) (st : St) (S : Nat) (k : Key) (v : Val) : Prop :=
  ∃ n slot decl, n < st.ctors.length ∧ (st.ctor n).s = S ∧ (st.ctor n).called = true ∧
    (k, slot, decl) ∈ slotLeaves (st.ctor n).results ∧
    ∃ ret : Ret, v = ret.val env slot decl ∧
      (ret.dry = false → ret.f = (st.ctor n).fn.id ∧ Event.exit (.ctor n) ret.f ret.x .ok ∈ st.hist)

def Just (env : TyEnv) (st : St) : Prop :=
  ∀ S k v, aget (st.scope S).values k = some v → VJ env st S k v

theorem VJ.transfer {env : TyEnv} {a b : St} {S : Nat} {k : Key} {v : Val} (h : VJ env a S k v)
    (hk : CtorsKeep a b) (hh : HistExt a b) : VJ env b S k v := by
  obtain ⟨n, slot, decl, hn, hs, hc, hm, ret, hv, hr⟩ := h
  obtain ⟨k1, k2, k3, k4, k5⟩ := hk n hn
  obtain ⟨l, hl⟩ := hh
  refine ⟨n, slot, decl, k1, by rw [k4]; exact hs, k5 hc, by rw [k3]; exact hm, ret, hv, ?_⟩
  intro hd
  obtain ⟨r1, r2⟩ := hr hd
  exact ⟨by rw [k2]; exact r1, by rw [hl]; exact List.mem_append_left _ r2⟩

theorem Just.transfer {env : TyEnv} {a b : St} (h : Just env a) (hk : CtorsKeep a b) (hh : HistExt a b)
    (hs : ∀ j, (b.scope j).values = (a.scope j).values) : Just env b := by
  intro S k v hv
  rw [hs S] at hv
  exact (h S k v hv).transfer hk hh

theorem Just.init (env : TyEnv) : Just env ({} : St) := by
  intro S k v hv
  cases S <;> simp [St.scope, aget] at hv

theorem ctorTail_scope (ctx : Ctx) (n : Nat) (node : CtorNode) (args : List Val) (st : St) (j : Nat) :
    (ctorTail ctx n node args st).2.scope j =
      match retOf node.fn.id (callBody ctx (.ctor n) node.fn args st).1 with
      | some ret => if node.s = j ∧ j < st.scopes.length then extractSlots ctx.env false ret (st.scope j) node.results
                    else st.scope j
      | none => st.scope j := by
  have hb := (callBody_fields ctx (.ctor n) node.fn args st).1
  simp only [ctorTail]
  rw [scope_of_scopes_eq (runCallback_fields _ _ _ _ _ _).1 j, ctorCommit_eq]
  cases retOf node.fn.id (callBody ctx (.ctor n) node.fn args st).1 with
  | some ret => show ((St.modScope _ node.s _).scope j) = _; rw [scope_modScope, hb, scope_of_scopes_eq hb j]
  | none => exact scope_of_scopes_eq hb j

theorem decoTail_scope (ctx : Ctx) (d : Nat) (node : DecoNode) (args : List Val) (st : St) (j : Nat) :
    (decoTail ctx d node args st).2.scope j =
      match retOf node.fn.id (callBody ctx (.deco d) node.fn args st).1 with
      | some ret => if node.s = j ∧ j < st.scopes.length then extractSlots ctx.env true ret (st.scope j) node.results
                    else st.scope j
      | none => st.scope j := by
  have hb := (callBody_fields ctx (.deco d) node.fn args st).1
  simp only [decoTail]
  rw [scope_of_scopes_eq (runCallback_fields _ _ _ _ _ _).1 j, decoCommit_eq]
  cases retOf node.fn.id (callBody ctx (.deco d) node.fn args st).1 with
  | some ret => show ((St.modScope _ node.s _).scope j) = _; rw [scope_modScope, hb, scope_of_scopes_eq hb j]
  | none => exact scope_of_scopes_eq hb j

/-- a scope after a constructor's tail: as it was, or, if it is the node's own and the body returned (or the run is
    dry), with the node's results extracted into it -/
theorem ctorTail_scope_cases (ctx : Ctx) (n : Nat) (node : CtorNode) (args : List Val) (st : St) (j : Nat)
    {P : ScopeSt → Prop} (keep : P (st.scope j))
    (commit : ∀ ret, retOf node.fn.id (callBody ctx (.ctor n) node.fn args st).1 = some ret → node.s = j →
      j < st.scopes.length → P (extractSlots ctx.env false ret (st.scope j) node.results)) :
    P ((ctorTail ctx n node args st).2.scope j) := by
  rw [ctorTail_scope]
  cases hret : retOf node.fn.id (callBody ctx (.ctor n) node.fn args st).1 with
  | none => exact keep
  | some ret =>
    simp only
    split
    · rename_i hc; exact commit ret hret hc.1 hc.2
    · exact keep

theorem decoTail_scope_cases (ctx : Ctx) (d : Nat) (node : DecoNode) (args : List Val) (st : St) (j : Nat)
    {P : ScopeSt → Prop} (keep : P (st.scope j))
    (commit : ∀ ret, retOf node.fn.id (callBody ctx (.deco d) node.fn args st).1 = some ret → node.s = j →
      j < st.scopes.length → P (extractSlots ctx.env true ret (st.scope j) node.results)) :
    P ((decoTail ctx d node args st).2.scope j) := by
  rw [decoTail_scope]
  cases hret : retOf node.fn.id (callBody ctx (.deco d) node.fn args st).1 with
  | none => exact keep
  | some ret =>
    simp only
    split
    · rename_i hc; exact commit ret hret hc.1 hc.2
    · exact keep

theorem decoTail_values (ctx : Ctx) (d : Nat) (node : DecoNode) (args : List Val) (st : St) (j : Nat) :
    ((decoTail ctx d node args st).2.scope j).values = (st.scope j).values :=
  decoTail_scope_cases ctx d node args st j (P := fun sc => sc.values = (st.scope j).values) rfl
    fun ret _ _ _ => extractSlots_deco_values ctx.env ret node.results _

theorem callBody_ok_exit (ctx : Ctx) (who : Who) (fn : Fn) (args : List Val) (st : St) (x len : Nat)
    (h : (callBody ctx who fn args st).1 = .ok x len) :
    Event.exit who fn.id x .ok ∈ (callBody ctx who fn args st).2.hist := by
  by_cases hd : ctx.cfg.dry = true
  · rw [callBody_dry ctx hd] at h; cases h
  · have hnd : ctx.cfg.dry = false := by simpa using hd
    rw [callBody_spec ctx hnd] at h ⊢
    simp only at h
    obtain ⟨rfl, hk⟩ := bodyRes_ok_x ctx fn st x len h
    show Event.exit who fn.id (st.execCount fn.id) .ok ∈ st.hist ++ bodyEvents ctx who fn args st
    unfold bodyEvents
    simp [hk]

theorem ctorTail_hist_body (ctx : Ctx) (n : Nat) (node : CtorNode) (args : List Val) (st : St) (e : Event)
    (h : e ∈ (callBody ctx (.ctor n) node.fn args st).2.hist) : e ∈ (ctorTail ctx n node args st).2.hist := by
  simp only [ctorTail]
  obtain ⟨l, _, h2, _⟩ := runCallback_log node.cb (.ctor n) node.fn.id st.clock
    (ctorOutcome ctx node.fn.id (callBody ctx (.ctor n) node.fn args st).1).2
    (ctorCommit ctx n node (callBody ctx (.ctor n) node.fn args st).1 (callBody ctx (.ctor n) node.fn args st).2)
  rw [h2, (ctorCommit_fields ctx n node _ _).2.1]
  exact List.mem_append_left _ h

/-- a constructor's tail that commits results: the node is registered (an unregistered one has no result slots), is marked
    built afterwards, and a real return has left its successful exit in the history -/
theorem ctorTail_commit (ctx : Ctx) (st : St) (n : Nat) (node : CtorNode) (args : List Val)
    (hst : CtorStatic node (st.ctor n)) {ret : Ret}
    (hret : retOf node.fn.id (callBody ctx (.ctor n) node.fn args st).1 = some ret) (hne : node.results ≠ []) :
    n < st.ctors.length ∧ ((ctorTail ctx n node args st).2.ctor n).called = true ∧
    (ret.dry = false → ret.f = node.fn.id ∧ Event.exit (.ctor n) ret.f ret.x .ok ∈ (ctorTail ctx n node args st).2.hist) := by
  have hn : n < st.ctors.length := by
    refine Nat.lt_of_not_le fun h => hne ?_
    rw [hst.results, ctor_default st n h]; rfl
  cases hb : (callBody ctx (.ctor n) node.fn args st).1 with
  | ok x len =>
    rw [hb] at hret; cases hret
    refine ⟨hn, ?_, fun _ => ⟨rfl, ?_⟩⟩
    · rw [ctorTail_ctor, if_pos ⟨by rw [hb]; rfl, rfl, hn⟩]
    · exact ctorTail_hist_body ctx n node args st _ (callBody_ok_exit ctx (.ctor n) node.fn args st x len hb)
  | dry =>
    rw [hb] at hret; cases hret
    refine ⟨hn, ?_, fun hd => nomatch hd⟩
    rw [ctorTail_ctor, if_pos ⟨by rw [hb]; rfl, rfl, hn⟩]
  | err x o => rw [hb] at hret; cases hret
  | panic x => rw [hb] at hret; cases hret

def JR (env : TyEnv) : St → St → Prop := InvRel (Just env)

theorem Just.flags {env : TyEnv} {a b : St} (hf : FlagsOnly a b) (h : Just env a) : Just env b :=
  h.transfer (hf.invRel (Inv := fun _ => True) id).ctorsKeep (HistExt.of_eq hf.hist)
    fun j => by rw [scope_of_scopes_eq hf.scopes j]

theorem Just.ctorTail {ctx : Ctx} {st : St} (hj : Just ctx.env st) (n : Nat) (node : CtorNode) (args : List Val)
    (hst : CtorStatic node (st.ctor n)) : Just ctx.env (Dig.ctorTail ctx n node args st).2 := by
  have hreg := regFrame_ctorTail ctx st n node args
  have hext := ctorTail_histExt ctx n node args st
  have hkeep := ctorsKeep_of_regFrame hreg (ctorTail_calledMono ctx n node args st)
  intro S k v
  refine ctorTail_scope_cases ctx n node args st S
    (P := fun sc => aget sc.values k = some v → VJ ctx.env (Dig.ctorTail ctx n node args st).2 S k v)
    (fun hv => (hj S k v hv).transfer hkeep hext) fun ret hret hs _ hv => ?_
  rcases extractSlots_values ctx.env ret node.results (st.scope S) k v hv with h1 | ⟨slot, decl, hm, hval⟩
  · exact (hj S k v h1).transfer hkeep hext
  · -- a fresh entry: written by this execution of constructor `n`
    obtain ⟨hn, hc, hx⟩ := ctorTail_commit ctx st n node args hst hret (fun e => by rw [e] at hm; cases hm)
    have hr := hreg.ctorStatic n
    refine ⟨n, slot, decl, hreg.ctorsLen ▸ hn, by rw [← hr.s, ← hst.s]; exact hs, hc,
      by rw [← hr.results, ← hst.results]; exact hm, ret, hval, ?_⟩
    rw [← hr.fn, ← hst.fn]
    exact hx

theorem Just.decoTail {ctx : Ctx} {st : St} (hj : Just ctx.env st) (d : Nat) (node : DecoNode) (args : List Val) :
    Just ctx.env (Dig.decoTail ctx d node args st).2 :=
  hj.transfer (invRel_decoTail (Inv := fun _ => True) ctx st d node args id).ctorsKeep (decoTail_histExt ctx d node args st)
    (decoTail_values ctx d node args st)

theorem jr_leaf (ctx : Ctx) : LeafRel2 ctx (JR ctx.env) :=
  invRel_leaf ctx (fun _ _ hf h => h.flags hf) (fun _ n node args hst h => h.ctorTail n node args hst)
    fun _ d node args _ h => h.decoTail d node args

theorem Just.buildList {ctx : Ctx} {st : St} (h : Just ctx.env st) (fuel : Nat) (ps : List Param) (c : Nat) :
    Just ctx.env (buildList ctx fuel ps c st).2 ∧ CtorsKeep st (buildList ctx fuel ps c st).2 :=
  have hr := (engine_pres2 ctx (jr_leaf ctx) fuel).2.2.2.2.2 ps c st
  ⟨hr.inv h, hr.ctorsKeep⟩

end Dig
