import DigModel.Engine
import DigModel.Proofs.AList
/-
  The three stages of running a user function for a node:
  `callBody` (events, clock, execution counter), `ctorCommit`/`decoCommit`
  (cache writes and the `called` flag), `runCallback`.
-/
namespace Dig

theorem bumpExec_fields (st : St) (f : Nat) :
    (st.bumpExec f).scopes = st.scopes ∧ (st.bumpExec f).ctors = st.ctors ∧ (st.bumpExec f).decos = st.decos ∧
    (st.bumpExec f).pgs = st.pgs ∧ (st.bumpExec f).log = st.log ∧ (st.bumpExec f).clock = st.clock ∧
    (st.bumpExec f).hist = st.hist := by
  unfold St.bumpExec
  split <;> exact ⟨rfl, rfl, rfl, rfl, rfl, rfl, rfl⟩

def exitKind (ctx : Ctx) (fn : Fn) (b : Beh) : ExitKind :=
  match b.k with
  | .panic => .panic
  | .err => if (errOuts ctx.env fn).isEmpty then .ok else .err
  | .ok => .ok

def bodyEvents (ctx : Ctx) (who : Who) (fn : Fn) (args : List Val) (st : St) : List Event :=
  let x := st.execCount fn.id
  [.enter who fn.id x args, .exit who fn.id x (exitKind ctx fn (ctx.beh fn.id x))]

def afterBody (ctx : Ctx) (who : Who) (fn : Fn) (args : List Val) (st : St) : St :=
  { (st.bumpExec fn.id) with
    clock := st.clock + (ctx.beh fn.id (st.execCount fn.id)).dt
    log := st.log ++ bodyEvents ctx who fn args st
    hist := st.hist ++ bodyEvents ctx who fn args st }

def bodyRes (ctx : Ctx) (fn : Fn) (st : St) : BodyRes :=
  let x := st.execCount fn.id
  let b := ctx.beh fn.id x
  let eo := errOuts ctx.env fn
  match b.k with
  | .panic => .panic x
  | .err => if eo.isEmpty then .ok x b.len else .err x (eo.getD (b.eslot % eo.length) 0)
  | .ok => .ok x b.len

theorem callBody_spec (ctx : Ctx) (hnd : ctx.cfg.dry = false) (who : Who) (fn : Fn) (args : List Val) (st : St) :
    callBody ctx who fn args st = (bodyRes ctx fn st, afterBody ctx who fn args st) := by
  obtain ⟨_, _, _, _, hl, hc, hh⟩ := bumpExec_fields st fn.id
  simp only [callBody, hnd, bodyRes, afterBody, bodyEvents, exitKind, St.emit, hl, hc, hh]
  cases (ctx.beh fn.id (st.execCount fn.id)).k
  · simp
  · by_cases h : (errOuts ctx.env fn).isEmpty <;> simp [h]
  · simp

theorem callBody_dry (ctx : Ctx) (h : ctx.cfg.dry = true) (who : Who) (fn : Fn) (args : List Val) (st : St) :
    callBody ctx who fn args st = (.dry, st) := by
  unfold callBody; simp [h]

theorem bodyRes_ok_iff (ctx : Ctx) (fn : Fn) (st : St) :
    (∃ x len, bodyRes ctx fn st = .ok x len) ↔ exitKind ctx fn (ctx.beh fn.id (st.execCount fn.id)) = .ok := by
  unfold bodyRes exitKind
  cases hk : (ctx.beh fn.id (st.execCount fn.id)).k
  · simp [hk]
  · by_cases h : (errOuts ctx.env fn).isEmpty <;> simp [h, hk]
  · simp [hk]

theorem bodyRes_ne_dry (ctx : Ctx) (fn : Fn) (st : St) : bodyRes ctx fn st ≠ .dry := by
  unfold bodyRes
  cases hk : (ctx.beh fn.id (st.execCount fn.id)).k
  · simp [hk]
  · by_cases h : (errOuts ctx.env fn).isEmpty <;> simp [h, hk]
  · simp [hk]

theorem afterBody_fields (ctx : Ctx) (who : Who) (fn : Fn) (args : List Val) (st : St) :
    (afterBody ctx who fn args st).scopes = st.scopes ∧ (afterBody ctx who fn args st).ctors = st.ctors ∧
    (afterBody ctx who fn args st).decos = st.decos ∧ (afterBody ctx who fn args st).pgs = st.pgs := by
  obtain ⟨h1, h2, h3, h4, _, _, _⟩ := bumpExec_fields st fn.id
  exact ⟨h1, h2, h3, h4⟩

theorem runCallback_fields (cb : Option Nat) (who : Who) (fn start : Nat) (err : Option DErr) (st : St) :
    (runCallback cb who fn start err st).scopes = st.scopes ∧ (runCallback cb who fn start err st).ctors = st.ctors ∧
    (runCallback cb who fn start err st).decos = st.decos ∧ (runCallback cb who fn start err st).pgs = st.pgs := by
  unfold runCallback
  split <;> exact ⟨rfl, rfl, rfl, rfl⟩

theorem runCallback_log (cb : Option Nat) (who : Who) (fn start : Nat) (err : Option DErr) (st : St) :
    ∃ l, (runCallback cb who fn start err st).log = st.log ++ l ∧ (runCallback cb who fn start err st).hist = st.hist ++ l ∧
      (l = [] ∨ ∃ op rt, l = [.cb op who fn err rt]) := by
  unfold runCallback
  split
  · exact ⟨[_], rfl, rfl, Or.inr ⟨_, _, rfl⟩⟩
  · exact ⟨[], by simp, by simp, Or.inl rfl⟩

theorem ctorCommit_fields (ctx : Ctx) (n : Nat) (node : CtorNode) (r : BodyRes) (st : St) :
    (ctorCommit ctx n node r st).log = st.log ∧ (ctorCommit ctx n node r st).hist = st.hist ∧
    (ctorCommit ctx n node r st).decos = st.decos ∧ (ctorCommit ctx n node r st).pgs = st.pgs ∧
    (ctorCommit ctx n node r st).clock = st.clock := by
  unfold ctorCommit
  cases r <;> exact ⟨rfl, rfl, rfl, rfl, rfl⟩

theorem decoCommit_fields (ctx : Ctx) (d : Nat) (node : DecoNode) (r : BodyRes) (st : St) :
    (decoCommit ctx d node r st).log = st.log ∧ (decoCommit ctx d node r st).hist = st.hist ∧
    (decoCommit ctx d node r st).ctors = st.ctors ∧ (decoCommit ctx d node r st).pgs = st.pgs ∧
    (decoCommit ctx d node r st).clock = st.clock := by
  unfold decoCommit
  cases r <;> exact ⟨rfl, rfl, rfl, rfl, rfl⟩

def retOf (fid : Nat) : BodyRes → Option Ret
  | .ok x len => some { dry := false, f := fid, x := x, len := len }
  | .dry => some { dry := true, f := 0, x := 0, len := 0 }
  | _ => none

theorem ctorCommit_eq (ctx : Ctx) (n : Nat) (node : CtorNode) (r : BodyRes) (st : St) :
    ctorCommit ctx n node r st =
      match retOf node.fn.id r with
      | some ret => (st.modScope node.s fun sc => extractSlots ctx.env false ret sc node.results).modCtor n
          fun y => { y with called := true }
      | none => st := by
  cases r <;> rfl

theorem decoCommit_eq (ctx : Ctx) (d : Nat) (node : DecoNode) (r : BodyRes) (st : St) :
    decoCommit ctx d node r st =
      match retOf node.fn.id r with
      | some ret => (st.modScope node.s fun sc => extractSlots ctx.env true ret sc node.results).modDeco d
          fun y => { y with state := .called }
      | none => st := by
  cases r <;> rfl

def BodyRes.commits : BodyRes → Bool
  | .ok _ _ => true
  | .dry => true
  | _ => false

theorem ctorCommit_ctors (ctx : Ctx) (n : Nat) (node : CtorNode) (r : BodyRes) (st : St) :
    (ctorCommit ctx n node r st).ctors =
      if r.commits then st.ctors.modify n (fun y => { y with called := true }) else st.ctors := by
  unfold ctorCommit
  cases r <;> simp [St.modCtor, St.modScope, BodyRes.commits]

theorem decoCommit_decos (ctx : Ctx) (d : Nat) (node : DecoNode) (r : BodyRes) (st : St) :
    (decoCommit ctx d node r st).decos =
      if r.commits then st.decos.modify d (fun y => { y with state := .called }) else st.decos := by
  unfold decoCommit
  cases r <;> simp [St.modDeco, St.modScope, BodyRes.commits]

theorem callBody_fields (ctx : Ctx) (who : Who) (fn : Fn) (args : List Val) (st : St) :
    (callBody ctx who fn args st).2.scopes = st.scopes ∧ (callBody ctx who fn args st).2.ctors = st.ctors ∧
    (callBody ctx who fn args st).2.decos = st.decos ∧ (callBody ctx who fn args st).2.pgs = st.pgs := by
  by_cases hd : ctx.cfg.dry = true
  · rw [callBody_dry ctx hd]; exact ⟨rfl, rfl, rfl, rfl⟩
  · rw [callBody_spec ctx (by simpa using hd)]; exact afterBody_fields ctx who fn args st

theorem ctorTail_ctor (ctx : Ctx) (n : Nat) (node : CtorNode) (args : List Val) (st : St) (m : Nat) :
    (ctorTail ctx n node args st).2.ctor m =
      if (callBody ctx (.ctor n) node.fn args st).1.commits = true ∧ n = m ∧ m < st.ctors.length
      then { st.ctor m with called := true } else st.ctor m := by
  simp only [ctorTail, St.ctor, (runCallback_fields _ _ _ _ _ _).2.1, ctorCommit_ctors,
    (callBody_fields ctx (.ctor n) node.fn args st).2.1]
  by_cases hc : (callBody ctx (.ctor n) node.fn args st).1.commits = true
  · simp only [hc, if_true, getD_modify, true_and]
  · simp [hc]

theorem ctorTail_decos (ctx : Ctx) (n : Nat) (node : CtorNode) (args : List Val) (st : St) :
    (ctorTail ctx n node args st).2.decos = st.decos := by
  simp only [ctorTail, (runCallback_fields _ _ _ _ _ _).2.2.1, (ctorCommit_fields ctx n node _ _).2.2.1,
    (callBody_fields ctx (.ctor n) node.fn args st).2.2.1]

theorem decoTail_deco (ctx : Ctx) (d : Nat) (node : DecoNode) (args : List Val) (st : St) (m : Nat) :
    (decoTail ctx d node args st).2.deco m =
      if (callBody ctx (.deco d) node.fn args st).1.commits = true ∧ d = m ∧ m < st.decos.length
      then { st.deco m with state := .called } else st.deco m := by
  simp only [decoTail, St.deco, (runCallback_fields _ _ _ _ _ _).2.2.1, decoCommit_decos,
    (callBody_fields ctx (.deco d) node.fn args st).2.2.1]
  by_cases hc : (callBody ctx (.deco d) node.fn args st).1.commits = true
  · simp only [hc, if_true, getD_modify, true_and]
  · simp [hc]

theorem decoTail_ctors (ctx : Ctx) (d : Nat) (node : DecoNode) (args : List Val) (st : St) :
    (decoTail ctx d node args st).2.ctors = st.ctors := by
  simp only [decoTail, (runCallback_fields _ _ _ _ _ _).2.1, (decoCommit_fields ctx d node _ _).2.2.1,
    (callBody_fields ctx (.deco d) node.fn args st).2.1]

theorem ctorTail_calledMono (ctx : Ctx) (n : Nat) (node : CtorNode) (args : List Val) (st : St) (m : Nat)
    (h : (st.ctor m).called = true) : ((ctorTail ctx n node args st).2.ctor m).called = true := by
  rw [ctorTail_ctor]; split
  · rfl
  · exact h

theorem decoTail_ctor (ctx : Ctx) (d : Nat) (node : DecoNode) (args : List Val) (st : St) (m : Nat) :
    (decoTail ctx d node args st).2.ctor m = st.ctor m := by
  simp only [St.ctor, decoTail_ctors]

theorem tail_log (ctx : Ctx) (who : Who) (fn : Fn) (args : List Val) (st : St) (cb : Option Nat)
    (err : BodyRes → Option DErr) (commit : BodyRes → St → St)
    (hc : ∀ r s, (commit r s).log = s.log ∧ (commit r s).hist = s.hist) :
    ∃ lb lc,
      (runCallback cb who fn.id st.clock (err (callBody ctx who fn args st).1)
        (commit (callBody ctx who fn args st).1 (callBody ctx who fn args st).2)).hist = st.hist ++ (lb ++ lc) ∧
      (runCallback cb who fn.id st.clock (err (callBody ctx who fn args st).1)
        (commit (callBody ctx who fn args st).1 (callBody ctx who fn args st).2)).log = st.log ++ (lb ++ lc) ∧
      ((ctx.cfg.dry = true ∧ lb = []) ∨ (ctx.cfg.dry = false ∧ lb = bodyEvents ctx who fn args st)) ∧
      (lc = [] ∨ ∃ op err rt, lc = [.cb op who fn.id err rt]) := by
  have hb : ∃ lb, (callBody ctx who fn args st).2.hist = st.hist ++ lb ∧ (callBody ctx who fn args st).2.log = st.log ++ lb ∧
      ((ctx.cfg.dry = true ∧ lb = []) ∨ (ctx.cfg.dry = false ∧ lb = bodyEvents ctx who fn args st)) := by
    by_cases hd : ctx.cfg.dry = true
    · rw [callBody_dry ctx hd]
      exact ⟨[], (List.append_nil _).symm, (List.append_nil _).symm, Or.inl ⟨hd, rfl⟩⟩
    · have hnd : ctx.cfg.dry = false := by simpa using hd
      rw [callBody_spec ctx hnd]
      exact ⟨_, rfl, rfl, Or.inr ⟨hnd, rfl⟩⟩
  obtain ⟨lb, hb1, hb2, hb3⟩ := hb
  obtain ⟨lc, h1, h2, h3⟩ := runCallback_log cb who fn.id st.clock (err (callBody ctx who fn args st).1)
    (commit (callBody ctx who fn args st).1 (callBody ctx who fn args st).2)
  refine ⟨lb, lc, by rw [h2, (hc _ _).2, hb1, List.append_assoc], by rw [h1, (hc _ _).1, hb2, List.append_assoc], hb3, ?_⟩
  rcases h3 with h | ⟨op, rt, h⟩
  · exact Or.inl h
  · exact Or.inr ⟨_, _, _, h⟩

theorem ctorTail_log (ctx : Ctx) (n : Nat) (node : CtorNode) (args : List Val) (st : St) :
    ∃ lb lc, (ctorTail ctx n node args st).2.hist = st.hist ++ (lb ++ lc) ∧
      (ctorTail ctx n node args st).2.log = st.log ++ (lb ++ lc) ∧
      ((ctx.cfg.dry = true ∧ lb = []) ∨ (ctx.cfg.dry = false ∧ lb = bodyEvents ctx (.ctor n) node.fn args st)) ∧
      (lc = [] ∨ ∃ op err rt, lc = [.cb op (.ctor n) node.fn.id err rt]) :=
  tail_log ctx (.ctor n) node.fn args st node.cb (fun r => (ctorOutcome ctx node.fn.id r).2) (ctorCommit ctx n node)
    fun r s => ⟨(ctorCommit_fields ctx n node r s).1, (ctorCommit_fields ctx n node r s).2.1⟩

theorem decoTail_log (ctx : Ctx) (d : Nat) (node : DecoNode) (args : List Val) (st : St) :
    ∃ lb lc, (decoTail ctx d node args st).2.hist = st.hist ++ (lb ++ lc) ∧
      (decoTail ctx d node args st).2.log = st.log ++ (lb ++ lc) ∧
      ((ctx.cfg.dry = true ∧ lb = []) ∨ (ctx.cfg.dry = false ∧ lb = bodyEvents ctx (.deco d) node.fn args st)) ∧
      (lc = [] ∨ ∃ op err rt, lc = [.cb op (.deco d) node.fn.id err rt]) :=
  tail_log ctx (.deco d) node.fn args st node.cb (fun r => (decoOutcome ctx node.fn.id r).2) (decoCommit ctx d node)
    fun r s => ⟨(decoCommit_fields ctx d node r s).1, (decoCommit_fields ctx d node r s).2.1⟩

theorem commits_of_ok_exit (ctx : Ctx) (hnd : ctx.cfg.dry = false) (who : Who) (fn : Fn) (args : List Val) (st : St)
    (h : exitKind ctx fn (ctx.beh fn.id (st.execCount fn.id)) = .ok) :
    (callBody ctx who fn args st).1.commits = true := by
  rw [callBody_spec ctx hnd]
  obtain ⟨x, len, hr⟩ := (bodyRes_ok_iff ctx fn st).mpr h
  simp [hr, BodyRes.commits]

end Dig
