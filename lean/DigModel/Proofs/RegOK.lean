import DigModel.Proofs.JustApi
import DigModel.Proofs.Views
/-
  The provider tables are consistent with the constructor table, in every reachable container (`RegInv`):
  a constructor is listed under every single key its results declare, in its home scope (`regOK`);
  two constructors listed under one key of one scope cannot both declare it as a single key
  (`uniq`: duplicates are rejected); a constructor's single keys are pairwise distinct (`nodup`).
-/
namespace Dig

theorem chk_ok (target : ScopeSt) : ∀ (ks seen seen' : List Key), visitKeys.chk target ks seen = .ok seen' →
    seen' = seen ++ ks ∧ (∀ k ∈ ks, agetL target.providers k = [] ∧ k ∉ seen) ∧ ks.Nodup := by
  intro ks
  induction ks with
  | nil => intro seen seen' h; simp only [visitKeys.chk] at h; injection h with h; subst h; simp
  | cons k more ih =>
    intro seen seen' h
    simp only [visitKeys.chk] at h
    split at h
    · cases h
    · rename_i hnc
      split at h
      · cases h
      · rename_i hne
        obtain ⟨e, h1, h2⟩ := ih _ _ h
        have hk : k ∉ seen := by simpa using hnc
        have hp : agetL target.providers k = [] := by simpa using hne
        refine ⟨by rw [e]; simp, ?_, ?_⟩
        · intro k' hk'
          rcases List.mem_cons.mp hk' with rfl | hm
          · exact ⟨hp, hk⟩
          · exact ⟨(h1 k' hm).1, fun hin => (h1 k' hm).2 (by simp [hin])⟩
        · refine List.nodup_cons.mpr ⟨?_, h2⟩
          intro hin
          exact (h1 k hin).2 (by simp)

def singleKeysL (rs : List Result) : List Key := (singleLeavesL rs).map (·.1)

theorem singleKeys_single (slot decl ty : Nat) (name : String) (as : List Nat) :
    (singleLeaves (.single slot decl ty name as)).map (·.1) =
      (ty :: as).map fun t => ({ ty := t, name := name, group := "" } : Key) := by
  simp only [singleLeaves, List.map_map]
  rfl

theorem singleKeysL_single (slot decl ty : Nat) (name : String) (as : List Nat) (rest : List Result) :
    singleKeysL (.single slot decl ty name as :: rest) =
      ((ty :: as).map fun t => ({ ty := t, name := name, group := "" } : Key)) ++ singleKeysL rest := by
  simp only [singleKeysL, singleLeavesL, List.map_append, singleKeys_single]

theorem singleKeysL_grouped (slot decl ty : Nat) (group : String) (flatten : Bool) (as : List Nat) (rest : List Result) :
    singleKeysL (.grouped slot decl ty group flatten as :: rest) = singleKeysL rest := by
  simp [singleKeysL, singleLeavesL, singleLeaves]

theorem singleKeysL_object (ty : Nat) (fs rest : List Result) :
    singleKeysL (.object ty fs :: rest) = singleKeysL fs ++ singleKeysL rest := by
  simp [singleKeysL, singleLeavesL, singleLeaves]

theorem visitKeys_rule (target : ScopeSt) (R : List Result → List Key → List Key → Prop)
    (nil : ∀ seen, R [] seen seen)
    (single : ∀ slot decl ty name as rest seen seen' keys,
      visitKeys.chk target ((ty :: as).map fun t => ({ ty := t, name := name, group := "" } : Key)) seen = .ok seen' →
      R rest seen' keys → R (.single slot decl ty name as :: rest) seen keys)
    (grouped : ∀ slot decl ty group flatten as rest seen keys,
      R rest (((ty :: as).map fun t => ({ ty := t, name := "", group := group } : Key)).foldl
        (fun acc k => if acc.contains k then acc else acc ++ [k]) seen) keys →
      R (.grouped slot decl ty group flatten as :: rest) seen keys)
    (object : ∀ ty fs rest seen seen' keys, R fs seen seen' → R rest seen' keys → R (.object ty fs :: rest) seen keys) :
    ∀ rs seen keys, visitKeys target rs seen = .ok keys → R rs seen keys := by
  apply visitKeys.induct target (fun rs seen => ∀ keys, visitKeys target rs seen = .ok keys → R rs seen keys)
  · intro seen keys h
    rw [visitKeys] at h; cases h; exact nil seen
  · intro slot decl ty name as rest seen ks e hc keys h
    rw [visitKeys, hc] at h; cases h
  · intro slot decl ty name as rest seen ks seen' hc ih keys h
    rw [visitKeys, hc] at h
    exact single _ _ _ _ _ _ _ _ _ hc (ih keys h)
  · intro slot decl ty group flatten as rest seen ks ih keys h
    rw [visitKeys] at h
    exact grouped _ _ _ _ _ _ _ _ _ (ih keys h)
  · intro ty fs rest seen e he ih keys h
    rw [visitKeys, he] at h; cases h
  · intro ty fs rest seen seen' hs ih1 ih2 keys h
    rw [visitKeys, hs] at h
    exact object _ _ _ _ _ _ (ih1 seen' hs) (ih2 keys h)

def KeysOK (target : ScopeSt) (A seen keys : List Key) : Prop :=
  (∀ k ∈ seen, k ∈ keys) ∧ (∀ k ∈ A, k ∈ keys ∧ agetL target.providers k = [] ∧ k ∉ seen) ∧ A.Nodup

theorem KeysOK.of_sub {target : ScopeSt} {seen keys : List Key} (h : ∀ k ∈ seen, k ∈ keys) : KeysOK target [] seen keys :=
  ⟨h, nofun, List.nodup_nil⟩

theorem KeysOK.append {target : ScopeSt} {A B seen mid keys : List Key} (h1 : KeysOK target A seen mid)
    (h2 : KeysOK target B mid keys) : KeysOK target (A ++ B) seen keys := by
  obtain ⟨j1, j2, j3⟩ := h1
  obtain ⟨i1, i2, i3⟩ := h2
  refine ⟨fun k hk => i1 k (j1 k hk), fun k hk => ?_, List.nodup_append.mpr ⟨j3, i3, ?_⟩⟩
  · rcases List.mem_append.mp hk with h | h
    · exact ⟨i1 k (j2 k h).1, (j2 k h).2⟩
    · exact ⟨(i2 k h).1, (i2 k h).2.1, fun hin => (i2 k h).2.2 (j1 k hin)⟩
  · intro a ha b hb hab
    subst hab
    exact (i2 a hb).2.2 (j2 a ha).1

theorem mem_foldl_addNew (l : List Key) : ∀ (acc : List Key) (k : Key), k ∈ acc →
    k ∈ l.foldl (fun acc k => if acc.contains k then acc else acc ++ [k]) acc := by
  induction l with
  | nil => intro acc k hk; exact hk
  | cons x xs ih =>
    intro acc k hk
    rw [List.foldl_cons]
    apply ih
    split
    · exact hk
    · exact List.mem_append_left _ hk

theorem mem_of_foldl_addNew (l : List Key) : ∀ (acc : List Key) (k : Key),
    k ∈ l.foldl (fun acc k => if acc.contains k then acc else acc ++ [k]) acc → k ∈ acc ∨ k ∈ l := by
  induction l with
  | nil => intro acc k hk; exact Or.inl hk
  | cons x xs ih =>
    intro acc k hk
    rw [List.foldl_cons] at hk
    rcases ih _ k hk with h1 | h1
    · split at h1
      · exact Or.inl h1
      · rcases List.mem_append.mp h1 with h2 | h2
        · exact Or.inl h2
        · exact Or.inr (List.mem_singleton.mp h2 ▸ List.mem_cons_self)
    · exact Or.inr (List.mem_cons_of_mem _ h1)

theorem visitKeys_ok (target : ScopeSt) : ∀ (rs : List Result) (seen keys : List Key),
    visitKeys target rs seen = .ok keys →
    (∀ k ∈ seen, k ∈ keys) ∧ (∀ k ∈ singleKeysL rs, k ∈ keys ∧ agetL target.providers k = [] ∧ k ∉ seen) ∧
    (singleKeysL rs).Nodup := by
  refine visitKeys_rule target (fun rs seen keys => KeysOK target (singleKeysL rs) seen keys)
    (fun seen => KeysOK.of_sub fun _ h => h) ?_ ?_ ?_
  · intro slot decl ty name as rest seen seen' keys hc ih
    obtain ⟨e, c1, c2⟩ := chk_ok target _ _ _ hc
    rw [singleKeysL_single]
    exact KeysOK.append ⟨fun k hk => by rw [e]; exact List.mem_append_left _ hk,
      fun k hk => ⟨by rw [e]; exact List.mem_append_right _ hk, c1 k hk⟩, c2⟩ ih
  · intro slot decl ty group flatten as rest seen keys ih
    rw [singleKeysL_grouped]
    exact (KeysOK.of_sub fun k hk => mem_foldl_addNew _ _ k hk).append ih
  · intro ty fs rest seen seen' keys ih1 ih2
    rw [singleKeysL_object]
    exact ih1.append ih2

structure Added (st st' : St) (target : Nat) (results : List RSlot) (keys : List Key) : Prop where
  chk : ∃ X : ScopeSt, X.providers = (st.scope target).providers ∧ visitKeys X (slotResults results) [] = .ok keys
  len : st'.ctors.length = st.ctors.length + 1
  node : (st'.ctor st.ctors.length).results = results ∧ (st'.ctor st.ctors.length).s = target
  keep : CtorsKeep st st'
  others : ∀ j, j ≠ target → (st'.scope j).providers = (st.scope j).providers
  prov : target < st.scopes.length → (st'.scope target).providers =
    keys.foldl (fun m k => aset m k (agetL m k ++ [st.ctors.length])) (st.scope target).providers
  scopesLen : st'.scopes.length = st.scopes.length

theorem Registered.added {ctx : Ctx} {fn : Fn} {st : St} {i s : Nat} {o : ProvideOpts} {target : Nat}
    {params : List Param} {results : List RSlot} {keys : List Key} {w w' : St}
    (hr : Registered ctx fn st i s o target params results keys w) (hc : w'.ctors = w.ctors)
    (hl : w'.scopes.length = w.scopes.length) (hp : ∀ j, (w'.scope j).providers = (w.scope j).providers) :
    Added st w' target results keys where
  chk := hr.checked
  len := by rw [hc]; exact hr.len
  node := by
    obtain ⟨ord, e⟩ := hr.ctor
    unfold St.ctor at e ⊢
    rw [hc, e]
    exact ⟨rfl, rfl⟩
  keep := (ctorsKeep_work hr.work).trans (ctorsKeep_of_ctors_eq hc)
  others j hj := by rw [hp, hr.providers_all, if_neg fun hc => hj hc.1]
  prov ht := by rw [hp, hr.providers_all, if_pos ⟨rfl, ht⟩]
  scopesLen := hl.trans hr.work.len

theorem apiProvide_reg (ctx : Ctx) (fn : Fn) (st : St) (i s : Nat) (o : ProvideOpts) :
    EqButVerified st (apiProvide ctx fn st i s o).1 ∨
    ∃ results keys, Added st (apiProvide ctx fn st i s o).1 (if o.export_ then St.root else s) results keys := by
  refine apiProvide_cases ctx fn st i s o (P := fun x => EqButVerified st x.1 ∨
      ∃ results keys, Added st x.1 (if o.export_ then St.root else s) results keys) (fun _ _ he => Or.inl he) ?_ ?_
  · intro target _ results keys w hr
    rw [← hr.target_eq]
    exact Or.inr ⟨results, keys, hr.added rfl rfl fun _ => rfl⟩
  · intro target _ results keys w hr
    rw [← hr.target_eq]
    refine Or.inr ⟨results, keys, hr.added rfl (by simp [St.modScope]) fun j => ?_⟩
    rw [scope_modScope]; split <;> rfl

theorem slotLeaves_eq : ∀ (slots : List RSlot), slotLeaves slots = singleLeavesL (slotResults slots)
  | [] => rfl
  | .err :: rest => by simp only [slotLeaves, slotResults]; exact slotLeaves_eq rest
  | .val r :: rest => by simp only [slotLeaves, slotResults, singleLeavesL]; rw [slotLeaves_eq rest]

def ctorKeys (st : St) (n : Nat) : List Key := (slotLeaves (st.ctor n).results).map (·.1)

structure RegInv (st : St) : Prop where
  nonempty : 0 < st.scopes.length
  bound : ∀ S k n, n ∈ agetL (st.scope S).providers k → n < st.ctors.length
  regOK : ∀ n, n < st.ctors.length → ∀ k ∈ ctorKeys st n, n ∈ agetL (st.scope (st.ctor n).s).providers k
  uniq : ∀ S k n n', n ∈ agetL (st.scope S).providers k → n' ∈ agetL (st.scope S).providers k →
    k ∈ ctorKeys st n → k ∈ ctorKeys st n' → n = n'
  nodup : ∀ n, n < st.ctors.length → (ctorKeys st n).Nodup

theorem RegInv.init : RegInv ({} : St) where
  nonempty := by decide
  bound S k n h := by cases S <;> simp [St.scope, agetL, aget] at h
  regOK n h := by simp at h
  uniq S k n n' h := by cases S <;> simp [St.scope, agetL, aget] at h
  nodup n h := by simp at h

theorem RegInv.transfer {a b : St} (h : RegInv a) (hl : b.ctors.length = a.ctors.length)
    (hk : ∀ n, n < a.ctors.length → (b.ctor n).results = (a.ctor n).results ∧ (b.ctor n).s = (a.ctor n).s)
    (hs : a.scopes.length ≤ b.scopes.length) (hp : ∀ j, (b.scope j).providers = (a.scope j).providers) : RegInv b := by
  have hkeys : ∀ n, ctorKeys b n = ctorKeys a n := by
    intro n
    unfold ctorKeys
    by_cases hn : n < a.ctors.length
    · rw [(hk n hn).1]
    · rw [ctor_default a n (Nat.le_of_not_lt hn), ctor_default b n (hl ▸ Nat.le_of_not_lt hn)]
  refine ⟨Nat.lt_of_lt_of_le h.nonempty hs, ?_, ?_, ?_, ?_⟩
  · intro S k n hn; rw [hp] at hn; rw [hl]; exact h.bound S k n hn
  · intro n hn k hkk
    rw [hl] at hn
    rw [hkeys] at hkk
    rw [(hk n hn).2, hp]
    exact h.regOK n hn k hkk
  · intro S k n n' h1 h2 h3 h4
    rw [hp] at h1 h2
    rw [hkeys] at h3 h4
    exact h.uniq S k n n' h1 h2 h3 h4
  · intro n hn; rw [hkeys]; exact h.nodup n (by omega)

theorem RegInv.of_regFrame {a b : St} (h : RegInv a) (hf : RegFrame a b) : RegInv b :=
  h.transfer hf.ctorsLen.symm (fun n _ => ⟨(hf.ctorStatic n).results.symm, (hf.ctorStatic n).s.symm⟩)
    (Nat.le_of_eq hf.scopesLen) (fun j => (hf.scopeReg j).providers.symm)

theorem RegInv.of_keep {a b : St} (h : RegInv a) (hl : b.ctors.length = a.ctors.length) (hk : CtorsKeep a b)
    (hs : a.scopes.length ≤ b.scopes.length) (hp : ∀ j, (b.scope j).providers = (a.scope j).providers) : RegInv b :=
  h.transfer hl (fun n hn => ⟨(hk n hn).2.2.1, (hk n hn).2.2.2.1⟩) hs hp

end Dig
