import DigModel.Proofs.DepsApi
import DigModel.Proofs.GroupCalled
/-
  The must-run half of laziness for non-soft value groups: when a parameter (list) has been built, every non-soft group
  in it is either decorated on the path or has every provider on the path built.
-/
namespace Dig

mutual
/-- the non-soft value groups of a parameter -/
def hardGroups : Param → List Key
  | .single _ _ => []
  | .grouped _ k soft _ => if soft then [] else [k]
  | .object _ fs => hardGroupsL fs
def hardGroupsL : List Param → List Key
  | [] => []
  | p :: ps => hardGroups p ++ hardGroupsL ps
end

theorem mem_hardGroupsL {k : Key} : ∀ {ps : List Param}, k ∈ hardGroupsL ps ↔ ∃ p ∈ ps, k ∈ hardGroups p
  | [] => by simp [hardGroupsL]
  | p :: ps => by
    simp only [hardGroupsL, List.mem_append, List.mem_cons, exists_eq_or_imp, mem_hardGroupsL (ps := ps)]

def GroupBuilt (st : St) (c : Nat) (k : Key) : Prop :=
  (∃ s ∈ st.ancestors c, aget (st.scope s).decorators k ≠ none ∨ (aget (st.scope s).decoratedGroups k).isSome = true) ∨
  (∀ s ∈ st.ancestors c, ∀ n ∈ agetL (st.scope s).providers k, (st.ctor n).called = true)

theorem GroupBuilt.mono {a b : St} {c : Nat} {k : Key} (h : GroupBuilt a c k) (hd : KK a b)
    (hm : ∀ n, (a.ctor n).called = true → (b.ctor n).called = true) : GroupBuilt b c k := by
  have hanc := regFrame_ancestors hd.reg c
  rcases h with ⟨s, hs, hv⟩ | h
  · exact Or.inl ⟨s, hanc ▸ hs, hv.imp (fun hv => (hd.reg.scopeReg s).decorators ▸ hv) (hd.dgroups s k)⟩
  · refine Or.inr (fun s hs n hn => ?_)
    rw [← hanc] at hs
    rw [← (hd.reg.scopeReg s).providers] at hn
    exact hm n (h s hs n hn)

section
variable (ctx : Ctx) (L L' : Nat)

theorem buildGroup_built (fuel : Nat) (k : Key) (c : Nat) (st : St) (hv : VL L L' st) :
    Sat (buildGroup ctx fuel k false c st) (fun _ s => GroupBuilt s c k) (fun _ _ => True) := by
  cases fuel with
  | zero => rw [buildGroup_zero]; trivial
  | succ fuel =>
    by_cases hd : ∃ s ∈ st.ancestors c,
        aget (st.scope s).decorators k ≠ none ∨ (aget (st.scope s).decoratedGroups k).isSome = true
    · -- decorated on the path before the run, and so after it
      have hfl := (engine_flags ctx L L' (fuel + 1)).2.2.2.1 k false c st hv
      exact (sat_state.2 (GroupBuilt.mono (.inl hd) ((kk_engine ctx (fuel + 1)).2.2.2.1 k false c st) hfl.ctorMono)).mono
        (fun _ _ h => h) fun _ _ _ => trivial
    · -- undecorated: every provider on the path has been called
      rw [buildGroup_undecorated ctx fuel k false c st
        (fun s hs => Classical.byContradiction fun hne => hd ⟨s, hs, .inl hne⟩)
        (fun s hs => Option.not_isSome_iff_eq_none.1 fun hq => hd ⟨s, hs, .inr hq⟩), if_neg Bool.false_ne_true]
      refine bind_sat (groupProviders_sat ctx L L' fuel k _ st hv) ?_
      rintro _ st5 ⟨hf5, hall⟩
      refine Or.inr fun s hs n hn => hall s ?_ n ?_
      · rw [regFrame_ancestors hf5.reg c]; exact hs
      · rw [(hf5.reg.scopeReg s).providers]; exact hn

/-- one parameter among those built one after the other: the groups the earlier ones built stay built -/
theorem groups_step {fuel c : Nat}
    (ihP : ∀ p st, VL L L' st →
      Sat (buildParam ctx fuel p c st) (fun _ s => ∀ k ∈ hardGroups p, GroupBuilt s c k) (fun _ _ => True))
    (f : Param) (s : St) (hv : VL L L' s) :
    Sat (buildParam ctx fuel f c s) (fun _ s' => VL L L' s' ∧ (∀ k ∈ hardGroups f, GroupBuilt s' c k) ∧
      ∀ y : Param, (∀ k ∈ hardGroups y, GroupBuilt s c k) → ∀ k ∈ hardGroups y, GroupBuilt s' c k) (fun _ _ => True) := by
  have hrun : Flags s (buildParam ctx fuel f c s).2 ∧ KK s (buildParam ctx fuel f c s).2 :=
    ⟨(engine_flags ctx L L' fuel).2.2.2.2.1 f c s hv, (kk_engine ctx fuel).2.2.2.2.1 f c s⟩
  refine ((ihP f s hv).and ((sat_state (I := fun s' => Flags s s' ∧ KK s s')).2 hrun)).mono ?_ fun _ _ _ => trivial
  exact fun _ _ ⟨hq, hf, hk⟩ => ⟨hv.step hf, hq, fun _ hg k hkg => (hg k hkg).mono hk hf.ctorMono⟩

theorem groups_sat : ∀ (fuel : Nat) (p : Param) (c : Nat) (st : St), VL L L' st →
    Sat (buildParam ctx fuel p c st) (fun _ s => ∀ k ∈ hardGroups p, GroupBuilt s c k) (fun _ _ => True) := by
  intro fuel
  induction fuel with
  | zero => intro p c st _; rw [buildParam_zero]; trivial
  | succ fuel ih =>
    intro p c st hv
    cases p with
    | single k' opt =>
      rw [buildParam_succ]
      exact sat_iff.2 ⟨fun _ _ k hk => by simp [hardGroups] at hk, fun _ _ => trivial⟩
    | grouped ty k' soft pg =>
      rw [buildParam_succ]
      cases soft with
      | true => exact sat_iff.2 ⟨fun _ _ k hk => by simp [hardGroups] at hk, fun _ _ => trivial⟩
      | false =>
        refine (buildGroup_built ctx L L' fuel k' c st hv).mono (fun _ _ h k hk => ?_) fun _ _ h => h
        rw [hardGroups, if_neg Bool.false_ne_true, List.mem_singleton] at hk
        exact hk ▸ h
    | object ty fs =>
      refine (fields_sat_each (Q := fun f s => ∀ k ∈ hardGroups f, GroupBuilt s c k) hv
        fun f _ => groups_step ctx L L' (ih · c) f).mono (fun _ _ ⟨_, hp⟩ k hk => ?_) fun _ _ h => h
      rw [hardGroups] at hk
      obtain ⟨f, hf, hkf⟩ := mem_hardGroupsL.mp hk
      exact hp f hf k hkf

theorem groups_built : ∀ (fuel : Nat) (p : Param) (c : Nat) (st : St), VL L L' st →
    ∀ (v : Val) (st' : St), buildParam ctx fuel p c st = (.ok v, st') → ∀ k ∈ hardGroups p, GroupBuilt st' c k :=
  fun fuel p c st hv _ _ h => (groups_sat ctx L L' fuel p c st hv).ok h

theorem groups_built_list (fuel : Nat) (ps : List Param) (c : Nat) (st : St) (hv : VL L L' st) :
    Sat (buildList ctx fuel ps c st) (fun _ s => ∀ k ∈ hardGroupsL ps, GroupBuilt s c k) (fun _ _ => True) := by
  cases fuel with
  | zero => rw [buildList_zero]; trivial
  | succ fuel =>
    rw [buildList_succ]
    exact (mapM_sat_each (Q := fun f s => ∀ k ∈ hardGroups f, GroupBuilt s c k) hv
      fun f _ => groups_step ctx L L' (groups_sat ctx L L' fuel · c) f).mono
      (fun _ _ h k hk => (mem_hardGroupsL.mp hk).elim fun f hf => h.2 f hf.1 k hf.2) fun _ _ h => h

end

/-- **after a successful Invoke every non-soft value group among the invoked function's parameters is decorated on the
    path or has every provider on the path built** -/
theorem invoke_groups_built {st : St} (ctx : Ctx) (hv : ValidReg st) (fn : Fn) (s : Nat) (info : Bool)
    (hok : (apiInvoke ctx fn st s info).2.v = .ok) :
    ∃ params w, parseParams ctx.env st s fn = (.ok params, w) ∧
      ∀ k ∈ hardGroupsL params, GroupBuilt (apiInvoke ctx fn st s info).1 s k := by
  have hg := ghOnly_parseParams ctx.env st s fn
  refine apiInvoke_cases
    (P := fun x => x.2.v = .ok → ∃ params w, parseParams ctx.env st s fn = (.ok params, w) ∧
      ∀ k ∈ hardGroupsL params, GroupBuilt x.1 s k) (fun _ _ => nofun) (fun _ _ _ _ => nofun) (fun _ _ _ _ _ _ _ => nofun) ?_ ?_ hok
  · exact fun _ _ _ _ _ _ hck hv' => absurd hv' (invokeCheck_error_ne_ok hck)
  · intro _ params w w3 hpp _ hck
    rw [hpp] at hg
    have hvw : ValidReg w := hv.of_scopes (Nat.le_of_eq (by rw [hg.ctors])) (Nat.le_of_eq (by rw [hg.decos]))
      fun j => ⟨(hg.scope j).providers.symm, (hg.scope j).decorators.symm⟩
    have hv3 : ValidReg w3 := by
      rcases invokeCheck_ok hck with e | ⟨_, e⟩ <;> rw [e]
      · exact hvw
      · exact hvw.of_scopes (Nat.le_refl _) (Nat.le_refl _) fun j => by rw [scope_modScope]; split <;> exact ⟨rfl, rfl⟩
    refine invokeRun_cases
      (P := fun x => x.2.v = .ok → ∃ params w, parseParams ctx.env st s fn = (.ok params, w) ∧
        ∀ k ∈ hardGroupsL params, GroupBuilt x.1 s k)
      (fun f _ _ hv' => absurd hv' (failToVerdict_ne_ok f)) fun args w4 r w5 _ hbl hcb _ => ?_
    have hgb := (groups_built_list ctx w3.ctors.length w3.decos.length (engineFuel w3 params) params s w3
      ⟨hv3, rfl, rfl⟩).ok (wrapErr_ok _ hbl)
    refine ⟨params, w, hpp, fun k hk => ?_⟩
    have hf := callBody_fields ctx .invoked fn args w4
    rw [hcb] at hf
    exact (hgb k hk).mono (kk_same _ _ (regFrame_of_same _ _ hf.1.symm hf.2.1.symm hf.2.2.1.symm hf.2.2.2.symm) hf.1)
      fun n hc => by rw [ctor_of_ctors_eq hf.2.1]; exact hc

end Dig
