import DigModel.Engine
/-
  Two runs of the resolver, in two contexts, from states related by `Rel`: if the look-ups the resolver makes
  agree on related states and its leaf writes (the on-stack marks, `ctorTail`, `decoTail`) take related states to
  related states, then all six functions do, with agreeing outcomes (`engine_sim`).  DryRun against a normal
  container, a reassignment of the `isVerifiedAcyclic` flags, a container without a running decorator and a change
  of irrelevant configuration are instances.
-/
namespace Dig

def RelOut {α : Type} (ρ : α → α → Prop) : Except Fail α → Except Fail α → Prop
  | .ok x, .ok y => ρ x y
  | .error e, .error e' => e = e'
  | _, _ => False

theorem RelOut.imp {α : Type} {ρ ρ' : α → α → Prop} (hρ : ∀ x y, ρ x y → ρ' x y) :
    ∀ {o o' : Except Fail α}, RelOut ρ o o' → RelOut ρ' o o'
  | .ok _, .ok _, h => hρ _ _ h
  | .error _, .error _, h => h

theorem RelOut.eq {α : Type} : ∀ {o o' : Except Fail α}, RelOut Eq o o' → o = o'
  | .ok _, .ok _, h => congrArg _ h
  | .error _, .error _, h => congrArg _ h

theorem RelOut.refl {α : Type} {ρ : α → α → Prop} (hρ : ∀ x, ρ x x) : ∀ o : Except Fail α, RelOut ρ o o
  | .ok x => hρ x
  | .error _ => rfl

def Sim {α : Type} (Rel : St → St → Prop) (ρ : α → α → Prop) (r1 r2 : Except Fail α × St) : Prop :=
  Rel r1.2 r2.2 ∧ RelOut ρ r1.1 r2.1

/-- Equal if `strict` holds, unconstrained otherwise.  The instances need results that are equal or results that
    are unrelated; either way the relation is kept by every function, which is what the resolver's plumbing of
    values asks of it. -/
def Upto (strict : Prop) {α : Type} (x y : α) : Prop := strict → x = y

def MapRel (F : St → St) (Inv : St → Prop) (a b : St) : Prop := b = F a ∧ Inv a

theorem relOut_upto_true {α : Type} {o o' : Except Fail α} : RelOut (Upto True) o o' ↔ o = o' :=
  ⟨fun h => RelOut.eq (h.imp fun _ _ e => e trivial), fun h => h ▸ RelOut.refl (fun _ _ => rfl) _⟩

theorem sim_map_iff {α : Type} {F : St → St} {Inv : St → Prop} {r r' : Except Fail α × St} :
    Sim (MapRel F Inv) (Upto True) r r' ↔ r' = (r.1, F r.2) ∧ Inv r.2 :=
  ⟨fun ⟨⟨h1, h2⟩, h3⟩ => ⟨Prod.ext (relOut_upto_true.mp h3).symm h1, h2⟩,
   fun ⟨e, h2⟩ => e ▸ ⟨⟨rfl, h2⟩, relOut_upto_true.mpr rfl⟩⟩

theorem sim_eq_iff {α : Type} {r r' : Except Fail α × St} : Sim Eq (Upto True) r r' ↔ r = r' :=
  ⟨fun ⟨h1, h2⟩ => Prod.ext (relOut_upto_true.mp h2) h1, fun h => h ▸ ⟨rfl, relOut_upto_true.mpr rfl⟩⟩

inductive OptRel {α : Type} (ρ : α → α → Prop) : Option α → Option α → Prop
  | none : OptRel ρ none none
  | some {v v' : α} : ρ v v' → OptRel ρ (some v) (some v')

theorem OptRel.of_eq {α : Type} {strict : Prop} {o o' : Option α} (h : o = o') : OptRel (Upto strict) o o' := by
  subst h
  cases o with
  | none => exact .none
  | some v => exact .some fun _ => rfl

theorem OptRel.of_isSome {α : Type} {o o' : Option α} (h : o.isSome = o'.isSome) : OptRel (Upto False) o o' := by
  cases o <;> cases o' <;> first | exact .none | exact .some False.elim | cases h

inductive ProvRel (ρ : Val → Val → Prop) : ProvLookup → ProvLookup → Prop
  | value {v v' : Val} : ρ v v' → ProvRel ρ (.value v) (.value v')
  | providers (s : Nat) (ns : List Nat) : ProvRel ρ (.providers s ns) (.providers s ns)
  | none : ProvRel ρ .none .none

section
variable {Rel : St → St → Prop}

theorem Sim.imp {α : Type} {ρ ρ' : α → α → Prop} {r1 r2 : Except Fail α × St} (h : Sim Rel ρ r1 r2)
    (hρ : ∀ x y, ρ x y → ρ' x y) : Sim Rel ρ' r1 r2 := ⟨h.1, h.2.imp hρ⟩

theorem sim_ret {α : Type} {ρ : α → α → Prop} {a b : St} (h : Rel a b) {x y : α} (hxy : ρ x y) :
    Sim Rel ρ (.ok x, a) (.ok y, b) := ⟨h, hxy⟩

theorem sim_err {α : Type} {ρ : α → α → Prop} {a b : St} (h : Rel a b) (e : Fail) :
    Sim Rel ρ ((.error e : Except Fail α), a) (.error e, b) := ⟨h, rfl⟩

theorem sim_bind {α β : Type} {ρ1 : α → α → Prop} {ρ2 : β → β → Prop} {m1 m2 : EM α} {f1 f2 : α → EM β} {a b : St}
    (hm : Sim Rel ρ1 (m1 a) (m2 b))
    (hf : ∀ x y a' b', ρ1 x y → Rel a' b' → Sim Rel ρ2 (f1 x a') (f2 y b')) :
    Sim Rel ρ2 (EM.bind m1 f1 a) (EM.bind m2 f2 b) := by
  unfold EM.bind
  revert hm
  rcases m1 a with ⟨_ | x, a'⟩ <;> rcases m2 b with ⟨_ | y, b'⟩ <;> intro ⟨hc, ho⟩
  · exact ⟨hc, ho⟩
  · exact ho.elim
  · exact ho.elim
  · exact hf x y a' b' ho hc

theorem sim_wrapErr {α : Type} {ρ : α → α → Prop} {m1 m2 : EM α} (w : DErr → DErr) {a b : St}
    (hm : Sim Rel ρ (m1 a) (m2 b)) : Sim Rel ρ (EM.wrapErr m1 w a) (EM.wrapErr m2 w b) := by
  unfold EM.wrapErr
  revert hm
  rcases m1 a with ⟨e | x, a'⟩ <;> rcases m2 b with ⟨e' | y, b'⟩ <;> intro ⟨hc, ho⟩
  · cases (ho : e = e')
    cases e <;> exact ⟨hc, rfl⟩
  · exact ho.elim
  · exact ho.elim
  · exact ⟨hc, ho⟩

theorem sim_finally {α : Type} {ρ : α → α → Prop} {m1 m2 : EM α} {fin1 fin2 : St → St} {a b : St}
    (hm : Sim Rel ρ (m1 a) (m2 b)) (hfin : ∀ a' b', Rel a' b' → Rel (fin1 a') (fin2 b')) :
    Sim Rel ρ (EM.finally_ m1 fin1 a) (EM.finally_ m2 fin2 b) :=
  ⟨hfin _ _ hm.1, hm.2⟩

theorem sim_forEachM {α : Type} {ρ : Unit → Unit → Prop} (hρ : ρ () ()) (xs : List α) (f1 f2 : α → EM Unit)
    (hf : ∀ x a b, Rel a b → Sim Rel ρ (f1 x a) (f2 x b)) :
    ∀ a b, Rel a b → Sim Rel ρ (forEachM xs f1 a) (forEachM xs f2 b) := by
  induction xs with
  | nil => intro a b h; exact sim_ret h hρ
  | cons x rest ih => intro a b h; exact sim_bind (hf x a b h) (fun _ _ a' b' _ h' => ih a' b' h')

theorem sim_firstM {α β : Type} (xs : List α) (f1 f2 : α → EM (Option β))
    (hf : ∀ x a b, Rel a b → Sim Rel Eq (f1 x a) (f2 x b)) :
    ∀ a b, Rel a b → Sim Rel Eq (firstM xs f1 a) (firstM xs f2 b) := by
  induction xs with
  | nil => intro a b h; exact sim_ret h rfl
  | cons x rest ih =>
    intro a b h
    refine sim_bind (hf x a b h) ?_
    rintro (_ | v) _ a' b' rfl h'
    · exact ih a' b' h'
    · exact sim_ret h' rfl

theorem sim_mapM {α β : Type} {strict : Prop} (xs : List α) (f1 f2 : α → EM β)
    (hf : ∀ x a b, Rel a b → Sim Rel (Upto strict) (f1 x a) (f2 x b)) :
    ∀ a b, Rel a b → Sim Rel (Upto strict) (mapM' xs f1 a) (mapM' xs f2 b) := by
  induction xs with
  | nil => intro a b h; exact sim_ret h fun _ => rfl
  | cons x rest ih =>
    intro a b h
    refine sim_bind (hf x a b h) fun v v' a' b' hv h' => ?_
    refine sim_bind (ih a' b' h') fun vs vs' a'' b'' hvs h'' => ?_
    exact sim_ret h'' fun s => by rw [hv s, hvs s]

theorem sim_providerStep {ρ : Unit → Unit → Prop} (env : TyEnv) (k : Key) (opt : Bool) (cid : Nat)
    {r1 r2 : Except Fail Unit × St} (h : Sim Rel ρ r1 r2) :
    Sim Rel Eq (providerStep env k opt cid r1) (providerStep env k opt cid r2) := by
  revert h
  rcases r1 with ⟨e | _, a⟩ <;> rcases r2 with ⟨e' | _, b⟩ <;> intro ⟨hc, ho⟩
  · cases (ho : e = e')
    cases e with
    | err e => simp only [providerStep]; split <;> exact ⟨hc, rfl⟩
    | _ => exact ⟨hc, rfl⟩
  · exact ho.elim
  · exact ho.elim
  · exact ⟨hc, rfl⟩

end

structure Reads (Rel : St → St → Prop) (strict : Prop) : Prop where
  ctor : ∀ {a b}, Rel a b → ∀ n, a.ctor n = b.ctor n
  deco : ∀ {a b}, Rel a b → ∀ d, a.deco d = b.deco d
  ancestors : ∀ {a b}, Rel a b → ∀ c, a.ancestors c = b.ancestors c
  providers : ∀ {a b}, Rel a b → ∀ s, (a.scope s).providers = (b.scope s).providers
  findDeco : ∀ {a b}, Rel a b → ∀ k anc, findDeco a k anc = findDeco b k anc
  values : ∀ {a b}, Rel a b → ∀ s k, OptRel (Upto strict) (aget (a.scope s).values k) (aget (b.scope s).values k)
  dvalues : ∀ {a b}, Rel a b → ∀ s k,
    OptRel (Upto strict) (aget (a.scope s).decoratedValues k) (aget (b.scope s).decoratedValues k)
  dgroups : ∀ {a b}, Rel a b → ∀ s k,
    OptRel (Upto strict) (aget (a.scope s).decoratedGroups k) (aget (b.scope s).decoratedGroups k)
  groups : ∀ {a b}, Rel a b → strict → ∀ s, (a.scope s).groups = (b.scope s).groups

theorem eq_reads (strict : Prop) : Reads Eq strict where
  ctor := by rintro a _ rfl n; rfl
  deco := by rintro a _ rfl d; rfl
  ancestors := by rintro a _ rfl c; rfl
  providers := by rintro a _ rfl s; rfl
  findDeco := by rintro a _ rfl k anc; rfl
  values := by rintro a _ rfl s k; exact .of_eq rfl
  dvalues := by rintro a _ rfl s k; exact .of_eq rfl
  dgroups := by rintro a _ rfl s k; exact .of_eq rfl
  groups := by rintro a _ rfl _ s; rfl

/-- besides, the leaf writes of the resolver keep `Rel`; decorator `d` is called only if `okD d` -/
structure Leaf (ctx₁ ctx₂ : Ctx) (Rel : St → St → Prop) (okD : Nat → Prop) (strict : Prop) : Prop
    extends Reads Rel strict where
  env : ctx₁.env = ctx₂.env
  sameIds : ctx₁.sameIds = ctx₂.sameIds
  okDeco : ∀ {a b}, Rel a b → ∀ {k anc d s}, Dig.findDeco a k anc = some (d, s) → okD d
  modCtor : ∀ {a b}, Rel a b → ∀ n f, Rel (a.modCtor n f) (b.modCtor n f)
  modDeco : ∀ {a b}, Rel a b → ∀ {d}, okD d → ∀ f, Rel (a.modDeco d f) (b.modDeco d f)
  ctorTail : ∀ {a b}, Rel a b → ∀ n node {args args'}, Upto strict args args' →
    Sim Rel (Upto strict) (ctorTail ctx₁ n node args a) (ctorTail ctx₂ n node args' b)
  decoTail : ∀ {a b}, Rel a b → ∀ {d}, okD d → ∀ node {args args'}, Upto strict args args' →
    Sim Rel (Upto strict) (decoTail ctx₁ d node args a) (decoTail ctx₂ d node args' b)

namespace Reads
variable {Rel : St → St → Prop} {strict : Prop} (L : Reads Rel strict)
include L

theorem findDecoratedValue {a b : St} (h : Rel a b) (k : Key) : ∀ anc,
    OptRel (Upto strict) (findDecoratedValue a k anc) (findDecoratedValue b k anc) := by
  intro anc
  induction anc with
  | nil => exact .none
  | cons s rest ih =>
    have hs := L.dvalues h s k
    unfold Dig.findDecoratedValue
    generalize aget (a.scope s).decoratedValues k = o, aget (b.scope s).decoratedValues k = o' at hs
    cases hs with
    | none => exact ih
    | some hv => exact .some hv

theorem findDecoratedGroup {a b : St} (h : Rel a b) (k : Key) : ∀ anc,
    OptRel (Upto strict) (findDecoratedGroup a k anc) (findDecoratedGroup b k anc) := by
  intro anc
  induction anc with
  | nil => exact .none
  | cons s rest ih =>
    have hs := L.dgroups h s k
    unfold Dig.findDecoratedGroup
    generalize aget (a.scope s).decoratedGroups k = o, aget (b.scope s).decoratedGroups k = o' at hs
    cases hs with
    | none => exact ih
    | some hv => exact .some hv

theorem findProviders {a b : St} (h : Rel a b) (k : Key) : ∀ anc,
    ProvRel (Upto strict) (findProviders a k anc) (findProviders b k anc) := by
  intro anc
  induction anc with
  | nil => exact .none
  | cons s rest ih =>
    have hs := L.values h s k
    unfold Dig.findProviders
    rw [L.providers h s]
    generalize aget (a.scope s).values k = o, aget (b.scope s).values k = o' at hs
    cases hs with
    | some hv => exact .value hv
    | none =>
      cases agetL (b.scope s).providers k with
      | nil => exact ih
      | cons n ns => exact .providers s _

theorem allProviders {a b : St} (h : Rel a b) (c : Nat) (k : Key) : a.allProviders c k = b.allProviders c k := by
  unfold St.allProviders
  rw [L.ancestors h c]
  congr 1
  funext s
  rw [L.providers h s]

theorem missingOfList {a b : St} (h : Rel a b) (c : Nat) (ps : List Param) : missingOfList a c ps = missingOfList b c ps := by
  have single : ∀ k opt, missingOf a c (.single k opt) = missingOf b c (.single k opt) := by
    intro k opt
    have hs := L.dvalues h c k
    simp only [missingOf, L.allProviders h c k]
    generalize aget (a.scope c).decoratedValues k = o, aget (b.scope c).decoratedValues k = o' at hs
    cases hs <;> rfl
  apply missingOfList.induct a c (motive_1 := fun p => missingOf a c p = missingOf b c p)
    (motive_2 := fun ps => Dig.missingOfList a c ps = Dig.missingOfList b c ps)
  · intro k opt _; exact single k opt
  · intro k opt _; exact single k opt
  · intro ty k soft pg; simp only [missingOf]
  · intro ty fs ih; simp only [missingOf]; exact ih
  · simp only [Dig.missingOfList]
  · intro p ps ih1 ih2; simp only [Dig.missingOfList, ih1, ih2]

theorem shallowCheck {ρ : Unit → Unit → Prop} (hρ : ρ () ()) {a b : St} (h : Rel a b) (c : Nat) (ps : List Param) :
    Sim Rel ρ (shallowCheck c ps a) (shallowCheck c ps b) := by
  unfold Dig.shallowCheck
  rw [L.missingOfList h c ps]
  cases Dig.missingOfList b c ps with
  | nil => exact ⟨h, hρ⟩
  | cons k ks => exact ⟨h, rfl⟩

end Reads

/-- the step of `callGroupDecorators` looks the decorator up as `findDeco` does on a path of one scope -/
theorem groupDecoStep_rel {β : Type} (P : β → β → Prop) {a b : St} {k : Key} {s : Nat}
    (h : findDeco a k [s] = findDeco b k [s]) {z1 z2 : β} {f1 f2 : Nat → β} (hz : P z1 z2)
    (hf : ∀ d s', findDeco a k [s] = some (d, s') → P (f1 d) (f2 d)) :
    P (match aget (a.scope s).decorators k with
        | some d => if (a.deco d).state == DecoState.onStack then z1 else f1 d
        | none => z1)
      (match aget (b.scope s).decorators k with
        | some d => if (b.deco d).state == DecoState.onStack then z2 else f2 d
        | none => z2) := by
  have e : ∀ (st : St) (z : β) (f : Nat → β),
      (match aget (st.scope s).decorators k with
        | some d => if (st.deco d).state == DecoState.onStack then z else f d
        | none => z) =
      match findDeco st k [s] with
        | some (d, _) => f d
        | none => z := by
    intro st z f
    simp only [findDeco]
    cases aget (st.scope s).decorators k with
    | none => rfl
    | some d => simp only; split <;> rfl
  rw [e a, e b, ← h]
  cases hfd : findDeco a k [s] with
  | none => exact hz
  | some dd => exact hf dd.1 dd.2 hfd

theorem engine_sim {ctx₁ ctx₂ : Ctx} {Rel : St → St → Prop} {okD : Nat → Prop} {strict : Prop}
    (L : Leaf ctx₁ ctx₂ Rel okD strict) :
    ∀ fuel,
      (∀ n c a b, Rel a b → Sim Rel (Upto strict) (callCtor ctx₁ fuel n c a) (callCtor ctx₂ fuel n c b)) ∧
      (∀ d s a b, okD d → Rel a b → Sim Rel (Upto strict) (callDeco ctx₁ fuel d s a) (callDeco ctx₂ fuel d s b)) ∧
      (∀ k opt c a b, Rel a b →
        Sim Rel (Upto strict) (buildSingle ctx₁ fuel k opt c a) (buildSingle ctx₂ fuel k opt c b)) ∧
      (∀ k soft c a b, Rel a b →
        Sim Rel (Upto strict) (buildGroup ctx₁ fuel k soft c a) (buildGroup ctx₂ fuel k soft c b)) ∧
      (∀ p c a b, Rel a b → Sim Rel (Upto strict) (buildParam ctx₁ fuel p c a) (buildParam ctx₂ fuel p c b)) ∧
      (∀ ps c a b, Rel a b → Sim Rel (Upto strict) (buildList ctx₁ fuel ps c a) (buildList ctx₂ fuel ps c b)) := by
  have unit : Upto strict () () := fun _ => rfl
  intro fuel
  induction fuel with
  | zero =>
    refine ⟨?_, ?_, ?_, ?_, ?_, ?_⟩ <;> intros <;> rename_i h
    · simp only [callCtor]; exact sim_err h _
    · simp only [callDeco]; exact sim_err h _
    · simp only [buildSingle]; exact sim_err h _
    · simp only [buildGroup]; exact sim_err h _
    · simp only [buildParam]; exact sim_err h _
    · simp only [buildList]; exact sim_err h _
  | succ fuel ih =>
    obtain ⟨ihC, ihD, ihS, ihG, ihP, ihL⟩ := ih
    refine ⟨?_, ?_, ?_, ?_, ?_, ?_⟩
    · intro n c a b h
      simp only [callCtor, L.ctor h n]
      split
      · exact sim_ret h unit
      · split
        · exact sim_err h _
        · refine sim_finally ?_ (fun a' b' h' => L.modCtor h' n _)
          refine sim_bind (L.shallowCheck unit (L.modCtor h n _) c _) fun _ _ a2 b2 _ h2 => ?_
          refine sim_bind (sim_wrapErr _ (ihL _ _ a2 b2 h2)) fun args args' a3 b3 hargs h3 => ?_
          exact L.ctorTail h3 n _ hargs
    · intro d s a b hd h
      simp only [callDeco, L.deco h d]
      split
      · exact sim_ret h unit
      · refine sim_finally ?_ (fun a' b' h' => L.modDeco h' hd _)
        refine sim_bind (L.shallowCheck unit (L.modDeco h hd _) s _) fun _ _ a2 b2 _ h2 => ?_
        refine sim_bind (sim_wrapErr _ (ihL _ _ a2 b2 h2)) fun args args' a3 b3 hargs h3 => ?_
        exact L.decoTail h3 hd _ hargs
    · intro k opt c a b h
      simp only [buildSingle, L.ancestors h c]
      have hfd := L.findDeco h k (b.ancestors c)
      cases hfa : findDeco a k (b.ancestors c) with
      | some dd =>
        rw [← hfd, hfa]
        refine sim_bind (sim_wrapErr _ (ihD dd.1 dd.2 a b (L.okDeco h hfa) h)) fun _ _ a' b' _ h' => ?_
        have hv := L.dvalues h' dd.2 k
        generalize aget (a'.scope dd.2).decoratedValues k = o, aget (b'.scope dd.2).decoratedValues k = o' at hv
        cases hv with
        | none => exact sim_err h' _
        | some hv => exact sim_ret h' hv
      | none =>
        rw [← hfd, hfa]
        have hdv := L.findDecoratedValue h k (b.ancestors c)
        generalize findDecoratedValue a k (b.ancestors c) = o, findDecoratedValue b k (b.ancestors c) = o' at hdv
        cases hdv with
        | some hv => exact sim_ret h hv
        | none =>
          have hp := L.findProviders h k (b.ancestors c)
          generalize findProviders a k (b.ancestors c) = o, findProviders b k (b.ancestors c) = o' at hp
          cases hp with
          | value hv => exact sim_ret h hv
          | none =>
            simp only [L.env]
            split
            · exact sim_ret h fun _ => rfl
            · exact sim_err h _
          | providers pc ns =>
            refine sim_bind (ρ1 := Eq) ?_ ?_
            · refine sim_firstM ns _ _ (fun n a1 b1 h1 => ?_) a b h
              simp only [L.ctor h1 n, L.env, L.sameIds]
              exact sim_providerStep _ k opt _ (ihC n _ a1 b1 h1)
            · rintro (_ | z) _ a' b' rfl h'
              · have hv := L.values h' pc k
                generalize aget (a'.scope pc).values k = o, aget (b'.scope pc).values k = o' at hv
                cases hv with
                | none => exact sim_err h' _
                | some hv => exact sim_ret h' hv
              · exact sim_ret h' fun _ => rfl
    · intro k soft c a b h
      simp only [buildGroup, L.ancestors h c]
      refine sim_bind (ρ1 := Upto strict) ?_ fun _ _ a2 b2 _ h2 => ?_
      · refine sim_forEachM unit _ _ _ (fun s a1 b1 h1 => ?_) a b h
        refine groupDecoStep_rel (Sim Rel (Upto strict)) (L.findDeco h1 k [s]) (sim_ret h1 unit) fun d _ hd => ?_
        simp only [L.deco h1 d, L.sameIds]
        exact sim_wrapErr _ (ihD d s a1 b1 (L.okDeco h1 hd) h1)
      · have hdg := L.findDecoratedGroup h2 k (b.ancestors c)
        generalize findDecoratedGroup a2 k (b.ancestors c) = o, findDecoratedGroup b2 k (b.ancestors c) = o' at hdg
        cases hdg with
        | some hv => exact sim_ret h2 hv
        | none =>
          refine sim_bind (ρ1 := Upto strict) ?_ fun _ _ a5 b5 _ h5 => ?_
          · cases soft with
            | true => exact sim_ret h2 unit
            | false =>
              refine sim_forEachM unit _ _ _ (fun s a3 b3 h3 => ?_) a2 b2 h2
              rw [L.providers h3 s]
              refine sim_forEachM unit _ _ _ (fun n a4 b4 h4 => ?_) a3 b3 h3
              simp only [L.ctor h4 n, L.sameIds]
              exact sim_wrapErr _ (ihC n _ a4 b4 h4)
          · refine sim_ret h5 fun hs => ?_
            congr 2
            funext s
            rw [L.groups h5 hs s]
    · intro p c a b h
      cases p with
      | single k opt => simp only [buildParam]; exact ihS k opt c a b h
      | grouped ty k soft pg => simp only [buildParam]; exact ihG k soft c a b h
      | object ty fs =>
        simp only [buildParam]
        refine sim_bind (sim_mapM _ _ _ (fun f a1 b1 h1 => ihP f c a1 b1 h1) a b h) fun hard hard' a1 b1 hh h1 => ?_
        refine sim_bind (sim_mapM _ _ _ (fun f a2 b2 h2 => ihP f c a2 b2 h2) a1 b1 h1) fun soft soft' a2 b2 hs h2 => ?_
        exact sim_ret h2 fun s => by rw [hh s, hs s]
    · intro ps c a b h
      simp only [buildList]
      exact sim_mapM _ _ _ (fun p a1 b1 h1 => ihP p c a1 b1 h1) a b h

end Dig
