import DigModel.Proofs.Avail
/-
  The induction over the six resolver functions for `AvPost` (see `Avail.lean`).
-/
namespace Dig

def NoD : Nat → Key → Prop := fun _ _ => False

theorem engine_avail (ctx : Ctx) (st0 : St) :
    ∀ fuel,
      (∀ n st, RegFrame st0 st → Stk st0 st (ReachC st0 n (st0.ctor n).origS) →
        AvPost st0 (ReachC st0 n (st0.ctor n).origS) NoD st (callCtor ctx fuel n (st0.ctor n).origS st)) ∧
      (∀ d s st, RegFrame st0 st → CheckedFrom st0 (.deco d) s → Stk st0 st (ReachD st0 d) →
        AvPost st0 (ReachD st0 d) NoD st (callDeco ctx fuel d s st)) ∧
      (∀ k opt c st, RegFrame st0 st → Stk st0 st (Reach st0 c (.single k)) →
        AvPost st0 (Reach st0 c (.single k)) (fun c' k' => opt = false ∧ c' = c ∧ k' = k) st (buildSingle ctx fuel k opt c st)) ∧
      (∀ k soft c st, RegFrame st0 st → Stk st0 st (Reach st0 c (.group k soft)) →
        AvPost st0 (Reach st0 c (.group k soft)) NoD st (buildGroup ctx fuel k soft c st)) ∧
      (∀ p c st, RegFrame st0 st → Stk st0 st (fun w => ∃ l ∈ leaves p, Reach st0 c l w) →
        AvPost st0 (fun w => ∃ l ∈ leaves p, Reach st0 c l w) (fun c' k' => c' = c ∧ k' ∈ reqSingles p) st
          (buildParam ctx fuel p c st)) ∧
      (∀ ps c st, RegFrame st0 st → Stk st0 st (fun w => ∃ l ∈ leavesL ps, Reach st0 c l w) →
        AvPost st0 (fun w => ∃ l ∈ leavesL ps, Reach st0 c l w) (fun c' k' => c' = c ∧ k' ∈ reqSinglesL ps) st
          (buildList ctx fuel ps c st)) := by
  intro fuel
  induction fuel with
  | zero =>
    have hfuel : ∀ {α : Type} {T : Who → Prop} {D : Nat → Key → Prop} {st : St}, RegFrame st0 st →
        AvPost st0 T D st ((EM.fail .fuel : EM α) st) :=
      fun h0 => ⟨h0, .refl _, nofun⟩
    refine ⟨?_, ?_, ?_, ?_, ?_, ?_⟩
    · intro n st h0 _; rw [callCtor_zero]; exact hfuel h0
    · intro d s st h0 _ _; rw [callDeco_zero]; exact hfuel h0
    · intro k o c st h0 _; rw [buildSingle_zero]; exact hfuel h0
    · intro k o c st h0 _; rw [buildGroup_zero]; exact hfuel h0
    · intro p c st h0 _; rw [buildParam_zero]; exact hfuel h0
    · intro ps c st h0 _; rw [buildList_zero]; exact hfuel h0
  | succ fuel ih =>
    obtain ⟨ihC, ihD, ihS, ihG, ihP, ihL⟩ := ih
    refine ⟨?_, ?_, ?_, ?_, ?_, ?_⟩
    · -- callCtor
      intro n st h0 hstk
      have hst := h0.ctorStatic n
      have hI : AvSt st0 st st := ⟨h0, .refl st⟩
      refine avPost_iff.2 ?_
      rw [callCtor_succ]
      split
      · exact hI
      · split
        · rename_i hon
          refine ⟨hI, .err ⟨⟨fun p s _ => ⟨.ctor n, Or.inl rfl, hstk n hon (.ctor n) (Or.inl rfl)⟩, fun ks hk => ?_⟩,
            fun hh => ?_⟩⟩
          · simp [DErr.rootCause] at hk
          · simp [DErr.hasMissingDeps, DErr.chain] at hh
        · rename_i hon
          -- inside, the marks are compared with those after `n` was marked
          have h1 : AvSt st0 (st.modCtor n fun x => { x with onStack := true }) (st.modCtor n fun x => { x with onStack := true }) :=
            ⟨h0.trans (regFrame_onStack st n true), .refl _⟩
          have hstk1 : Stk st0 (st.modCtor n fun x => { x with onStack := true })
              (fun w => ∃ l ∈ leavesL (st0.ctor n).params, Reach st0 (st0.ctor n).origS l w) := by
            intro m hm w hw
            rw [ctor_modCtor] at hm
            split at hm
            · rename_i hnm
              obtain ⟨rfl, _⟩ := hnm
              exact hw
            · exact hstk m hm w (Or.inr hw)
          have hfin : ∀ s, AvSt st0 (st.modCtor n fun x => { x with onStack := true }) s →
              AvSt st0 st (s.modCtor n fun x => { x with onStack := false }) := by
            intro s ⟨hs, hk⟩
            refine ⟨hs.trans (regFrame_onStack s n false), fun m => ?_⟩
            have hl : s.ctors.length = st.ctors.length := hs.ctorsLen.symm.trans h0.ctorsLen
            have hm := hk m
            rw [ctor_modCtor] at hm ⊢
            by_cases hnm : n = m ∧ m < s.ctors.length
            · rw [if_pos hnm]
              obtain ⟨rfl, _⟩ := hnm
              exact (Bool.eq_false_iff.2 hon).symm
            · rw [if_neg hnm, hm, if_neg (by rw [← hl]; exact hnm)]
          refine finally_sat (Q' := fun _ => AvSt st0 (st.modCtor n fun x => { x with onStack := true }))
            (E' := fun f s => AvSt st0 (st.modCtor n fun x => { x with onStack := true }) s ∧ AvErr st0 _ NoD f) ?_
            (fun _ => hfin) (fun _ s h => ⟨hfin s h.1, h.2⟩)
          refine bind_sat (R := fun _ => AvSt st0 (st.modCtor n fun x => { x with onStack := true })) (shallowCheck_avErr h1 h1.1 _ _ ?_) fun _ s2 h2 => ?_
          · intro k hk
            exact Or.inr ⟨.ctor n, Or.inl rfl, by rw [← hst.params] at hk; exact hk, rfl⟩
          refine bind_sat (wrapErr_sat ((ihL (st.ctor n).params (st0.ctor n).origS s2 h2.1
            (hst.params ▸ hstk1.same h2.2)).sat h2.2 ?_ ?_) fun _ _ h => ⟨h.1, h.2.wrap .argsFailed⟩)
            fun args s3 h3 => (avp_ctorTail ctx h3.1 n _ args).sat h3.2 (fun _ h => h) (fun _ _ h => Or.inl h)
          · intro w ⟨l, hl, hr⟩
            exact Or.inr (hst.params ▸ ⟨l, hl, hr⟩)
          · intro c' k' ⟨hc, hk⟩
            exact Or.inr ⟨.ctor n, Or.inl rfl, by rw [← hst.params] at hk; exact hk, hc⟩
    · -- callDeco
      intro d s st h0 hchk hstk
      have hst := h0.decoStatic d
      have hI : AvSt st0 st st := ⟨h0, .refl st⟩
      refine avPost_iff.2 ?_
      rw [callDeco_succ]
      split
      · exact hI
      · have h1 : AvSt st0 st (st.modDeco d fun x => { x with state := .onStack }) :=
          ⟨h0.trans (regFrame_decoOnStack st d), fun _ => rfl⟩
        have hfin : ∀ s, AvSt st0 st s →
            AvSt st0 st (s.modDeco d fun x => if x.state == .called then x else { x with state := .ready }) :=
          fun s h => ⟨h.1.trans (regFrame_decoFinally s d), h.2⟩
        refine finally_sat (Q' := fun _ => AvSt st0 st) (E' := fun f s => AvSt st0 st s ∧ AvErr st0 _ NoD f) ?_
          (fun _ => hfin) (fun _ s h => ⟨hfin s h.1, h.2⟩)
        refine bind_sat (R := fun _ => AvSt st0 st) (shallowCheck_avErr h1 h1.1 _ _ ?_) fun _ s2 h2 => ?_
        · intro k hk
          exact Or.inr ⟨.deco d, Or.inl rfl, by rw [← hst.params] at hk; exact hk, hchk⟩
        refine bind_sat (wrapErr_sat ((ihL (st.deco d).params (st.deco d).s s2 h2.1 (by
            rw [← hst.params, ← hst.s]
            exact (hstk.mono fun w hw => Or.inr hw).same h2.2)).sat h2.2 ?_ ?_) fun _ _ h => ⟨h.1, h.2.wrap .argsFailed⟩)
          fun args s3 h3 => (avp_decoTail ctx h3.1 d _ args).sat h3.2 (fun _ h => h) (fun _ _ h => Or.inl h)
        · intro w ⟨l, hl, hr⟩
          exact Or.inr (by rw [hst.params, hst.s]; exact ⟨l, hl, hr⟩)
        · intro c' k' ⟨hc, hk⟩
          exact Or.inr ⟨.deco d, Or.inl rfl, by rw [← hst.params] at hk; exact hk, Or.inl (by rw [hc, hst.s])⟩
    · -- buildSingle
      intro k opt c st h0 hstk
      have hI : AvSt st0 st st := ⟨h0, .refl st⟩
      refine avPost_iff.2 ?_
      rw [buildSingle_succ]
      split
      · rename_i d ds hfd
        obtain ⟨hmem, hdec0⟩ : ds ∈ st0.ancestors c ∧ aget (st0.scope ds).decorators (Lf.single k).key = some d :=
          findDeco_reg h0 hfd
        have hsub : ∀ w, ReachD st0 d w → Reach st0 c (.single k) w := fun w => ReachD.sub hmem hdec0
        refine bind_sat (wrapErr_sat ((ihD d ds st h0 (Or.inr ⟨k, hdec0⟩) (hstk.mono hsub)).sat hI.2 hsub nofun)
          fun _ _ h => ⟨h.1, h.2.wrap (.paramSingle k 1)⟩) fun _ s' hs' => ?_
        split
        · exact hs'
        · exact ⟨hs', .other nofun⟩
      · split
        · exact hI
        · split
          · exact hI
          · rename_i hfp
            split
            · exact hI
            · rename_i hopt
              refine ⟨hI, .err ⟨⟨fun p s hr => (nomatch hr), fun ks hr => ?_⟩, fun _ => ⟨_, rfl⟩⟩⟩
              cases hr
              refine ⟨nofun, fun k' hk' => ?_⟩
              cases List.mem_singleton.1 hk'
              refine ⟨c, ?_, Or.inl ⟨Bool.eq_false_iff.2 hopt, rfl, rfl⟩⟩
              rw [regFrame_allProviders h0]
              exact allProviders_nil_of st c k (fun s hs => (findProviders_none st k _ hfp s hs).2)
          · rename_i pc ns hfp
            have hnear : nearestProv st0 k (st0.ancestors c) = some (pc, ns) := findProviders_nearest h0 hfp
            refine bind_sat (firstM_inv hI fun n hn s1 hs1 => ?_) fun early s' hs' => ?_
            · have hsub : ∀ w, ReachC st0 n (st0.ctor n).origS w → Reach st0 c (.single k) w :=
                fun w => ReachC.sub_single hnear hn
              refine providerStep_sat ((hs1.1.ctorStatic n).origS ▸ (ihC n s1 hs1.1 ((hstk.same hs1.2).mono hsub)).sat hs1.2 hsub nofun)
                (fun _ h => h) (fun _ _ h _ => h.1) (fun _ _ h _ => ⟨h.1, h.2.wrap (.paramSingle k _)⟩) (fun _ _ _ h => h)
            · split
              · exact hs'
              · split
                · exact hs'
                · exact ⟨hs', .other nofun⟩
    · -- buildGroup
      intro k soft c st h0 hstk
      have hanc : st.ancestors c = st0.ancestors c := (regFrame_ancestors h0 c).symm
      refine avPost_iff.2 (buildGroup_inv (fun _ _ _ h => ⟨h.1, h.2.wrap (.paramGroup k _)⟩) ⟨h0, .refl st⟩
        (fun s hs d s1 hs1 hd _ => ?_) fun hsoft s hs n s3 s4 hs3 hn hs4 => ?_)
      · have hdec0 : aget (st0.scope s).decorators (Lf.group k soft).key = some d := (hs1.1.scopeReg s).decorators ▸ hd
        have hsub : ∀ w, ReachD st0 d w → Reach st0 c (.group k soft) w := fun w => ReachD.sub (hanc ▸ hs) hdec0
        exact (ihD d s s1 hs1.1 (Or.inr ⟨k, hdec0⟩) ((hstk.same hs1.2).mono hsub)).sat hs1.2 hsub nofun
      · have hn0 : n ∈ agetL (st0.scope s).providers k := (hs3.1.scopeReg s).providers ▸ hn
        have hsub : ∀ w, ReachC st0 n (st0.ctor n).origS w → Reach st0 c (.group k soft) w := by
          rw [hsoft]
          exact fun w => ReachC.sub_group (hanc ▸ hs) hn0
        exact (hs4.1.ctorStatic n).origS ▸ (ihC n s4 hs4.1 ((hstk.same hs4.2).mono hsub)).sat hs4.2 hsub nofun
    · -- buildParam
      intro p c st h0 hstk
      cases p with
      | single k opt =>
        have hsub : ∀ w, Reach st0 c (.single k) w → ∃ l ∈ leaves (.single k opt), Reach st0 c l w :=
          fun w hw => ⟨_, by simp [leaves], hw⟩
        rw [buildParam_succ]
        refine (ihS k opt c st h0 (hstk.mono hsub)).mono hsub ?_
        intro c' k' ⟨ho, hc, hk⟩
        exact Or.inl ⟨hc, by simp [reqSingles, ho, hk]⟩
      | grouped ty k soft pg =>
        have hsub : ∀ w, Reach st0 c (.group k soft) w → ∃ l ∈ leaves (.grouped ty k soft pg), Reach st0 c l w :=
          fun w hw => ⟨_, by simp [leaves], hw⟩
        rw [buildParam_succ]
        exact (ihG k soft c st h0 (hstk.mono hsub)).mono hsub nofun
      | object ty fs =>
        refine avPost_iff.2 (fields_inv ⟨h0, .refl st⟩ fun f hf s hs => ?_)
        have hT : ∀ w, (∃ l ∈ leaves f, Reach st0 c l w) → ∃ l ∈ leaves (.object ty fs), Reach st0 c l w :=
          fun w ⟨l, hl, hr⟩ => ⟨l, by simp only [leaves]; exact mem_leavesL.mpr ⟨f, hf, hl⟩, hr⟩
        refine (ihP f c s hs.1 ((hstk.same hs.2).mono hT)).sat hs.2 hT ?_
        intro c' k' ⟨hc, hk'⟩
        exact Or.inl ⟨hc, by simp only [reqSingles]; exact mem_reqSinglesL.mpr ⟨f, hf, hk'⟩⟩
    · -- buildList
      intro ps c st h0 hstk
      refine avPost_iff.2 ?_
      rw [buildList_succ]
      refine mapM_inv ⟨h0, .refl st⟩ fun p hp s hs => ?_
      have hT : ∀ w, (∃ l ∈ leaves p, Reach st0 c l w) → ∃ l ∈ leavesL ps, Reach st0 c l w :=
        fun w ⟨l, hl, hr⟩ => ⟨l, mem_leavesL.mpr ⟨p, hp, hl⟩, hr⟩
      refine (ihP p c s hs.1 ((hstk.same hs.2).mono hT)).sat hs.2 hT ?_
      intro c' k' ⟨hc, hk'⟩
      exact Or.inl ⟨hc, mem_reqSinglesL.mpr ⟨p, hp, hk'⟩⟩

end Dig
