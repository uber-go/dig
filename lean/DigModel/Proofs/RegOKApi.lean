import DigModel.Proofs.RegOK
/-
  `RegInv` is an invariant of the whole API.
-/
namespace Dig

theorem RegInv.added {st st' : St} {target : Nat} {results : List RSlot} {keys : List Key} (h : RegInv st)
    (ha : Added st st' target results keys) (ht : target < st.scopes.length) : RegInv st' := by
  obtain ⟨X, hX, hvk⟩ := ha.chk
  obtain ⟨-, v1, v3⟩ := visitKeys_ok X _ _ _ hvk
  have hnew : ctorKeys st' st.ctors.length = singleKeysL (slotResults results) := by
    unfold ctorKeys singleKeysL
    rw [ha.node.1, slotLeaves_eq]
  have hold : ∀ n, n < st.ctors.length → ctorKeys st' n = ctorKeys st n := by
    intro n hn; unfold ctorKeys; rw [(ha.keep n hn).2.2.1]
  have hmem : ∀ S k x, x ∈ agetL (st'.scope S).providers k ↔
      x ∈ agetL (st.scope S).providers k ∨ (S = target ∧ x = st.ctors.length ∧ k ∈ keys) := by
    intro S k x
    by_cases hS : S = target
    · subst hS
      rw [ha.prov ht, agetL_foldl_aset_append, List.mem_append, List.mem_replicate]
      exact or_congr_right ⟨fun h => ⟨rfl, h.2, List.count_pos_iff.mp (Nat.pos_of_ne_zero h.1)⟩,
        fun h => ⟨Nat.ne_of_gt (List.count_pos_iff.mpr h.2.2), h.2.1⟩⟩
    · rw [ha.others S hS]
      exact ⟨Or.inl, fun h => h.elim id fun h => absurd h.1 hS⟩
  refine ⟨by rw [ha.scopesLen]; exact h.nonempty, ?_, ?_, ?_, ?_⟩
  · intro S k n hn
    rw [ha.len]
    rcases (hmem S k n).1 hn with h1 | ⟨_, h1, _⟩
    · exact Nat.lt_succ_of_lt (h.bound S k n h1)
    · rw [h1]; exact Nat.lt_succ_self _
  · intro n hn k hk
    rw [ha.len] at hn
    rcases Nat.lt_succ_iff_lt_or_eq.mp hn with hlt | rfl
    · rw [hold n hlt] at hk
      rw [(ha.keep n hlt).2.2.2.1]
      exact (hmem _ k n).2 (Or.inl (h.regOK n hlt k hk))
    · rw [hnew] at hk
      rw [ha.node.2]
      exact (hmem _ k _).2 (Or.inr ⟨rfl, rfl, (v1 k hk).1⟩)
  · intro S k n n' h1 h2 h3 h4
    have key : ∀ m, m ∈ agetL (st'.scope S).providers k → k ∈ ctorKeys st' m →
        (m < st.ctors.length ∧ m ∈ agetL (st.scope S).providers k ∧ k ∈ ctorKeys st m) ∨
        (m = st.ctors.length ∧ S = target ∧ k ∈ singleKeysL (slotResults results)) := by
      intro m hm hkm
      rcases (hmem S k m).1 hm with h5 | ⟨h5, h6, _⟩
      · have hb := h.bound S k m h5
        exact Or.inl ⟨hb, h5, by rw [← hold m hb]; exact hkm⟩
      · subst h6; exact Or.inr ⟨rfl, h5, by rw [← hnew]; exact hkm⟩
    rcases key n h1 h3 with ⟨a1, a2, a3⟩ | ⟨a1, a2, a3⟩ <;> rcases key n' h2 h4 with ⟨b1, b2, b3⟩ | ⟨b1, b2, b3⟩
    · exact h.uniq S k n n' a2 b2 a3 b3
    · exfalso
      subst b2
      have := (v1 k b3).2.1
      rw [hX] at this
      rw [this] at a2; cases a2
    · exfalso
      subst a2
      have := (v1 k a3).2.1
      rw [hX] at this
      rw [this] at b2; cases b2
    · rw [a1, b1]
  · intro n hn
    rw [ha.len] at hn
    rcases Nat.lt_succ_iff_lt_or_eq.mp hn with hlt | rfl
    · rw [hold n hlt]; exact h.nodup n hlt
    · rw [hnew]; exact v3

theorem RegInv.eqButVerified {a b : St} (h : RegInv a) (he : EqButVerified a b) : RegInv b :=
  h.of_keep (by rw [he.ctors]) (ctorsKeep_of_ctors_eq he.ctors.symm) (by rw [he.scopesLen]; exact Nat.le_refl _)
    (fun j => (he.scope j).providers.symm)

theorem RegInv.provide {st : St} (h : RegInv st) (ctx : Ctx) (fn : Fn) (i s : Nat) (o : ProvideOpts)
    (hs : s < st.scopes.length) : RegInv (apiProvide ctx fn st i s o).1 := by
  rcases apiProvide_reg ctx fn st i s o with he | ⟨results, keys, ha⟩
  · exact h.eqButVerified he
  · refine h.added ha ?_
    split
    · exact h.nonempty
    · exact hs

theorem apiDecorate_providers (ctx : Ctx) (fn : Fn) (st : St) (i s : Nat) (cb info : Bool) :
    ∀ j, ((apiDecorate ctx fn st i s cb info).1.scope j).providers = (st.scope j).providers := by
  refine apiDecorate_cases ctx fn st i s cb info (P := fun x => ∀ j, (x.1.scope j).providers = (st.scope j).providers)
    (fun _ _ => rfl) fun _ _ _ w _ hg _ _ _ j => ?_
  refine (scope_modScope_keep (·.providers) _ s _ ?_ j).trans (hg.scope j).providers.symm
  exact fun _ => rfl

theorem apiDecorate_scopesLen (ctx : Ctx) (fn : Fn) (st : St) (i s : Nat) (cb info : Bool) :
    (apiDecorate ctx fn st i s cb info).1.scopes.length = st.scopes.length :=
  apiDecorate_cases ctx fn st i s cb info (P := fun x => x.1.scopes.length = st.scopes.length) (fun _ => rfl)
    fun _ _ _ _ _ hg _ _ _ => (List.length_modify _ _ _).trans hg.scopesLen.symm

theorem RegInv.decorate {st : St} (h : RegInv st) (ctx : Ctx) (fn : Fn) (i s : Nat) (cb info : Bool) :
    RegInv (apiDecorate ctx fn st i s cb info).1 :=
  h.of_keep (by rw [apiDecorate_ctors]) (ctorsKeep_of_ctors_eq (apiDecorate_ctors ctx fn st i s cb info))
    (by rw [apiDecorate_scopesLen]; exact Nat.le_refl _) (apiDecorate_providers ctx fn st i s cb info)

theorem apiScope_providers (st : St) (parent : Nat) : ∀ j, ((apiScope st parent).scope j).providers = (st.scope j).providers ∧
    st.scopes.length ≤ (apiScope st parent).scopes.length := fun j =>
  ⟨apiScope_scope_keep (·.providers) st parent (fun _ _ => rfl) rfl j, by rw [(apiScope_shape st parent).2]; simp⟩

theorem apiScope_ctorsLen (st : St) (parent : Nat) : (apiScope st parent).ctors.length = st.ctors.length :=
  (apiScope_shape st parent).1.ctorsLen

theorem RegInv.scope {st : St} (h : RegInv st) (parent : Nat) : RegInv (apiScope st parent) :=
  h.of_keep (apiScope_ctorsLen st parent) (ctorsKeep_apiScope st parent) (apiScope_providers st parent 0).2
    (fun j => (apiScope_providers st parent j).1)

theorem RegInv.of_tables {a b : St} (h : RegInv a) (hc : b.ctors = a.ctors) (hs : b.scopes = a.scopes) : RegInv b :=
  h.of_keep (by rw [hc]) (ctorsKeep_of_ctors_eq hc) (by rw [hs]; exact Nat.le_refl _) (fun j => by rw [scope_of_scopes_eq hs j])

theorem RegInv.invoke {st : St} (h : RegInv st) (ctx : Ctx) (fn : Fn) (s : Nat) (info : Bool) :
    RegInv (apiInvoke ctx fn st s info).1 := by
  have hg := ghOnly_parseParams ctx.env st s fn
  refine apiInvoke_inv h ?_ (fun w hw _ => ?_)
    (fun params w hw => hw.of_regFrame (buildList_regFrame ctx (engineFuel w params) params s w))
    (fun _ _ args w4 _ _ h4 => ?_)
  · exact h.of_keep (by rw [hg.ctors]) (ctorsKeep_of_ctors_eq hg.ctors.symm)
      (by rw [hg.scopesLen]; exact Nat.le_refl _) (fun j => (hg.scope j).providers.symm)
  · refine hw.of_keep rfl (ctorsKeep_of_ctors_eq rfl) (by simp [St.modScope]) ?_
    intro j; rw [scope_modScope]; split <;> rfl
  · have hf := callBody_fields ctx .invoked fn args w4
    exact h4.of_tables hf.2.1 hf.1

theorem RegInv.stepInv (ctx : Ctx) (fns : List Fn) : StepInv ctx fns RegInv where
  reset _ h := h.of_tables rfl rfl
  scope _ p h _ _ := h.scope p
  provide _ i s _ fn o h _ _ hs := h.provide ctx fn i s o hs
  decorate _ i s _ fn cb info h _ _ _ := h.decorate ctx fn i s cb info
  invoke _ s _ fn info h _ _ _ := h.invoke ctx fn s info

theorem RegInv.step {st : St} (h : RegInv st) (ctx : Ctx) (fns : List Fn) (i : Nat) (op : Op) :
    RegInv (Dig.step ctx fns st i op).1 :=
  step_inv (RegInv.stepInv ctx fns) h i op

theorem RegInv.runOps (ctx : Ctx) (fns : List Fn) (ops : List Op) (i : Nat) (st : St) (acc : List OpRes)
    (h : RegInv st) : RegInv (Dig.runOps ctx fns ops i st acc).1 :=
  runOps_inv (RegInv.stepInv ctx fns) ops i st acc h

theorem regInv_program (p : Program) : RegInv (runProgram p).1 :=
  RegInv.runOps p.ctx p.fns p.ops 0 {} [] RegInv.init

end Dig
