import DigModel.Api
import DigModel.Proofs.ParseRule
/-
  The parse of a signature without group tags is a constant of the parser's state monad: it answers the same in every
  state and leaves the state as it is (`newParam_noGroup`, `parseParams_noGroup`).
-/
namespace Dig

theorem parseParams_fst (env : TyEnv) (st : St) (sc : Nat) (fn : Fn) :
    (parseParams env st sc fn).1 =
      (newParamListAux env (if fn.variadic then fn.ins.dropLast else fn.ins) (st.pgs.map (·.desc))).1 := rfl

mutual
def noGroupT : GoT → Bool
  | .univ _ => true
  | .ptr _ _ => true
  | .strct _ fs => noGroupFs fs
def noGroupFs : List (FieldMeta × GoT) → Bool
  | [] => true
  | (m, t) :: rest => m.tags.group == "" && noGroupT t && noGroupFs rest
end

def PM.Const (m : PM α) : Prop := ∃ r, m = PM.lift r

namespace PM.Const

theorem eq {m : PM α} (h : m.Const) (s : List PGDesc) : m s = ((m []).1, s) := by
  obtain ⟨r, rfl⟩ := h; rfl

theorem map {m : PM α} {g : α → β} (h : m.Const) : (m.bind fun a => .pure (g a)).Const := by
  obtain ⟨r, rfl⟩ := h
  cases r <;> exact ⟨_, rfl⟩

theorem cons {m : PM Param} {ml : PM (List Param)} (hm : m.Const) (hl : ml.Const) :
    (m.wrap.bind fun p => ml.bind fun ps => .pure (p :: ps)).Const := by
  obtain ⟨r, rfl⟩ := hm
  obtain ⟨rl, rfl⟩ := hl
  cases r with
  | error e => exact ⟨_, rfl⟩
  | ok p => cases rl <;> exact ⟨_, rfl⟩

end PM.Const

theorem ParamLeaf.const {k : Key} {opt : Bool} {m : PM Param} (h : ParamLeaf k opt m) : m.Const := by
  rcases h with rfl | rfl | rfl <;> exact ⟨_, rfl⟩

theorem newParam_const_of (env : TyEnv) {t : GoT} (h : ∀ i fs, t = .strct i fs → ∀ ig, (newParamFields env ig fs).Const) :
    (newParam env t).Const := by
  rcases newParam_shape env t with hl | ⟨i, fs, ig, rfl, e⟩
  · exact hl.const
  · rw [e]; exact (h i fs rfl ig).map

theorem newParamField_const_of (env : TyEnv) {m : FieldMeta} {t : GoT} (hg : m.tags.group = "")
    (h : (newParam env t).Const) : (newParamField env (m, t)).Const := by
  rcases newParamField_shape env m t with ⟨opt, hl⟩ | ⟨hne, -⟩ | e
  · exact hl.const
  · exact absurd hg hne
  · rw [e]; exact h

theorem newParamFields_const_cons (env : TyEnv) {ig : Bool} {f : FieldMeta × GoT} {rest : List (FieldMeta × GoT)}
    (hf : (newParamField env f).Const) (hr : (newParamFields env ig rest).Const) :
    (newParamFields env ig (f :: rest)).Const := by
  rcases newParamFields_cons env ig f rest with e | e <;> rw [e]
  · exact hr
  · exact hf.cons hr

theorem noGroupFs_cons {m : FieldMeta} {t : GoT} {rest : List (FieldMeta × GoT)} (h : noGroupFs ((m, t) :: rest) = true) :
    m.tags.group = "" ∧ noGroupT t = true ∧ noGroupFs rest = true := by
  simpa only [noGroupFs, Bool.and_eq_true, beq_iff_eq, and_assoc] using h

theorem newParam_noGroup (env : TyEnv) (t : GoT) : noGroupT t = true → (newParam env t).Const :=
  GoT.rec (motive_1 := fun t => noGroupT t = true → (newParam env t).Const)
    (motive_2 := fun fs => noGroupFs fs = true → ∀ ig, (newParamFields env ig fs).Const)
    (motive_3 := fun f => f.1.tags.group = "" → noGroupT f.2 = true → (newParamField env f).Const)
    (fun _ _ => newParam_const_of env fun _ _ h => nomatch h) (fun _ _ _ _ => newParam_const_of env fun _ _ h => nomatch h)
    (fun _ _ ih ht => newParam_const_of env fun _ _ h => by cases h; exact ih (by rwa [noGroupT] at ht))
    (fun _ _ => ⟨.ok [], by rw [newParamFields]; rfl⟩)
    (fun f _ hf hr h ig =>
      have ⟨h1, h2, h3⟩ := noGroupFs_cons (m := f.1) (t := f.2) h
      newParamFields_const_cons env (hf h1 h2) (hr h3 ig))
    (fun _ _ ih hg ht => newParamField_const_of env hg (ih ht)) t

theorem newParamField_noGroup (env : TyEnv) (m : FieldMeta) (t : GoT) (hg : m.tags.group = "") (ht : noGroupT t = true) :
    ∀ s, newParamField env (m, t) s = ((newParamField env (m, t) []).1, s) :=
  (newParamField_const_of env hg (newParam_noGroup env t ht)).eq

theorem newParamListAux_noGroup (env : TyEnv) : ∀ ts : List GoT, (∀ t ∈ ts, noGroupT t = true) →
    (newParamListAux env ts).Const
  | [], _ => ⟨.ok [], rfl⟩
  | t :: rest, h => by
    rw [newParamListAux_cons]
    exact (newParam_noGroup env t (h t (List.mem_cons_self ..))).cons
      (newParamListAux_noGroup env rest fun t ht => h t (List.mem_cons_of_mem _ ht))

theorem parseParams_noGroup (env : TyEnv) (fn : Fn)
    (h : ∀ t ∈ (if fn.variadic then fn.ins.dropLast else fn.ins), noGroupT t = true) (x : St) (s : Nat) :
    parseParams env x s fn = ((newParamListAux env (if fn.variadic then fn.ins.dropLast else fn.ins) []).1, x) := by
  unfold parseParams newParamList
  simp only [(newParamListAux_noGroup env _ h).eq (x.pgs.map _)]
  unfold addPGNodes
  have e : (x.pgs.map (·.desc)).drop x.pgs.length = [] := List.drop_eq_nil_of_le (by rw [List.length_map]; exact Nat.le_refl _)
  simp only [List.length_map, e, List.map_nil, List.append_nil, Nat.sub_self, List.range_zero, List.foldl_nil]

end Dig
