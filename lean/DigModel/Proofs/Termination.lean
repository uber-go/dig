import DigModel.Proofs.History
import DigModel.Proofs.RootCauseApi
/-
  The resolver never runs out of its recursion budget.

  Go recurses on the goroutine stack; the model recurses structurally on a number (`fuel`) and answers
  `Fail.fuel` when it reaches zero.  This file proves that the budget handed out by `apiInvoke`
  (`engineFuel`) is always sufficient — for every registry, cyclic or not:

  * a constructor / decorator whose arguments are being built is marked (`onStack`), and a marked node is
    never entered again (constructors answer with a cycle error, decorators are skipped by their callers);
  * the marks are balanced and `called` only grows (`Flags`), so the number of *idle* nodes (neither built nor
    marked) never grows along an execution and strictly drops inside every entered node;
  * between two entries the recursion descends at most `D + 3` levels, `D` the deepest parameter object.

  Hence a budget of `idle · (D + 3) + 1` suffices for a `Call`, by induction on the budget.
-/
namespace Dig

def NF {α : Type} (m : EM α) (st : St) : Prop := (m st).1 ≠ .error .fuel

theorem nf_ok {α : Type} (a : α) (st s' : St) {m : EM α} (h : m st = (.ok a, s')) : NF m st := by
  unfold NF; rw [h]; intro hc; cases hc

theorem countP_range_flip (p q : Nat → Bool) (n : Nat) (hp : p n = true) (hq : q n = false)
    (hrest : ∀ m, m ≠ n → q m = p m) : ∀ L, n < L → (List.range L).countP q + 1 = (List.range L).countP p := by
  intro L
  induction L with
  | zero => exact fun h => absurd h (Nat.not_lt_zero _)
  | succ L ih =>
    intro hn
    rw [List.range_succ, List.countP_append, List.countP_append, List.countP_singleton, List.countP_singleton]
    rcases Nat.lt_succ_iff_lt_or_eq.mp hn with hlt | rfl
    · rw [hrest L (Nat.ne_of_gt hlt), Nat.add_right_comm, ih hlt]
    · have : (List.range n).countP q = (List.range n).countP p :=
        List.countP_congr fun m hm => by rw [hrest m (Nat.ne_of_lt (List.mem_range.mp hm))]
      rw [this, hp, hq]; rfl

def idleC (st : St) (n : Nat) : Bool := !(st.ctor n).called && !(st.ctor n).onStack
def idleD (st : St) (d : Nat) : Bool := (st.deco d).state == .ready

def idle (L L' : Nat) (st : St) : Nat := (List.range L).countP (idleC st) + (List.range L').countP (idleD st)

theorem idle_flags {L L' : Nat} {a b : St} (hf : Flags a b) : idle L L' b ≤ idle L L' a := by
  unfold idle
  apply Nat.add_le_add
  · apply List.countP_mono_left
    intro n _ hb
    simp only [idleC, Bool.and_eq_true, Bool.not_eq_true'] at hb ⊢
    constructor
    · cases hc : (a.ctor n).called with
      | false => rfl
      | true => rw [hf.ctorMono n hc] at hb; exact absurd hb.1 (by simp)
    · rw [← hf.ctorBal n]; exact hb.2
  · apply List.countP_mono_left
    intro d _ hb
    simp only [idleD, beq_iff_eq] at hb ⊢
    cases hs : (a.deco d).state with
    | ready => rfl
    | onStack => rw [(hf.decoBal d).mpr hs] at hb; cases hb
    | called => rw [hf.decoMono d hs] at hb; cases hb

theorem idle_setOnStack {L L' : Nat} (st : St) (n : Nat) (hL : st.ctors.length = L) (hn : n < L)
    (hc : (st.ctor n).called = false) (ho : (st.ctor n).onStack = false) :
    idle L L' (st.modCtor n fun x => { x with onStack := true }) + 1 = idle L L' st := by
  have h1 := countP_range_flip (idleC st) (idleC (st.modCtor n fun x => { x with onStack := true })) n
    (by rw [idleC, hc, ho]; rfl) (by rw [idleC, ctor_modCtor, if_pos ⟨rfl, hL ▸ hn⟩]; exact Bool.and_false _)
    (fun m hm => by rw [idleC, idleC, ctor_modCtor, if_neg fun h => hm h.1.symm]) L hn
  unfold idle
  rw [← h1]
  exact Nat.add_right_comm _ _ _

theorem idle_decoOnStack {L L' : Nat} (st : St) (d : Nat) (hL : st.decos.length = L') (hd : d < L')
    (hr : (st.deco d).state = .ready) :
    idle L L' (st.modDeco d fun x => { x with state := .onStack }) + 1 = idle L L' st := by
  have h1 := countP_range_flip (idleD st) (idleD (st.modDeco d fun x => { x with state := .onStack })) d
    (by rw [idleD, hr]; rfl) (by rw [idleD, deco_modDeco, if_pos ⟨rfl, hL ▸ hd⟩]; rfl)
    (fun m hm => by rw [idleD, idleD, deco_modDeco, if_neg fun h => hm h.1.symm]) L' hd
  unfold idle
  rw [← h1]
  exact Nat.add_assoc _ _ _

theorem idle_le (L L' : Nat) (st : St) : idle L L' st ≤ L + L' :=
  Nat.add_le_add (Nat.le_trans List.countP_le_length (Nat.le_of_eq List.length_range))
    (Nat.le_trans List.countP_le_length (Nat.le_of_eq List.length_range))

theorem pdepth_le_of_mem {p : Param} {ps : List Param} (h : p ∈ ps) : pdepth p ≤ pdepthL ps := by
  induction ps with
  | nil => cases h
  | cons x xs ih =>
    simp only [pdepthL]
    rcases List.mem_cons.mp h with h | h
    · subst h; exact Nat.le_max_left _ _
    · exact Nat.le_trans (ih h) (Nat.le_max_right _ _)

structure TV (L L' D k : Nat) (st : St) : Prop where
  vl : VL L L' st
  dc : ∀ n, pdepthL (st.ctor n).params ≤ D
  dd : ∀ d, pdepthL (st.deco d).params ≤ D
  idle : idle L L' st ≤ k

theorem TV.provLt {L L' D k : Nat} {st : St} (h : TV L L' D k st) {s n : Nat} {key : Key}
    (hn : n ∈ agetL (st.scope s).providers key) : n < L := h.vl.2.1 ▸ h.vl.1.1 s key n hn

theorem TV.decoLt {L L' D k : Nat} {st : St} (h : TV L L' D k st) {s d : Nat} {key : Key}
    (hd : aget (st.scope s).decorators key = some d) : d < L' := h.vl.2.2 ▸ h.vl.1.2 s key d hd

theorem TV.step {L L' D k : Nat} {a b : St} (h : TV L L' D k a) (hf : Flags a b) : TV L L' D k b where
  vl := h.vl.step hf
  dc n := by rw [← (hf.reg.ctorStatic n).params]; exact h.dc n
  dd d := by rw [← (hf.reg.decoStatic d).params]; exact h.dd d
  idle := Nat.le_trans (idle_flags hf) h.idle

theorem TV.modCtor {L L' D k : Nat} {st : St} (h : TV L L' D (k + 1) st) (n : Nat) (hn : n < L)
    (hc : (st.ctor n).called = false) (ho : (st.ctor n).onStack = false) :
    TV L L' D k (st.modCtor n fun x => { x with onStack := true }) where
  vl := h.vl.modCtor n true
  dc m := by rw [ctor_modCtor]; split <;> exact h.dc m
  dd := h.dd
  idle := by have := idle_setOnStack (L' := L') st n h.vl.2.1 hn hc ho; have := h.idle; omega

theorem TV.modDeco {L L' D k : Nat} {st : St} (h : TV L L' D (k + 1) st) (d : Nat) (hd : d < L')
    (hr : (st.deco d).state = .ready) : TV L L' D k (st.modDeco d fun x => { x with state := .onStack }) where
  vl := h.vl.modDeco d
  dc := h.dc
  dd m := by rw [deco_modDeco]; split <;> exact h.dd m
  idle := by have := idle_decoOnStack (L := L) st d h.vl.2.2 hd hr; have := h.idle; omega

def cC (D k : Nat) : Nat := k * (D + 3) + 1

theorem cC_succ (D k : Nat) : cC D (k + 1) = cC D k + D + 3 := by
  unfold cC
  rw [Nat.add_mul]
  omega

theorem engine_nofuel (ctx : Ctx) (L L' D : Nat) :
    ∀ fuel,
      (∀ n c k st, n < L → TV L L' D k st → cC D k ≤ fuel → NF (callCtor ctx fuel n c) st) ∧
      (∀ d s k st, d < L' → (st.deco d).state ≠ .onStack → TV L L' D k st → cC D k ≤ fuel →
        NF (callDeco ctx fuel d s) st) ∧
      (∀ key opt c k st, TV L L' D k st → cC D k + 1 ≤ fuel → NF (buildSingle ctx fuel key opt c) st) ∧
      (∀ key soft c k st, TV L L' D k st → cC D k + 1 ≤ fuel → NF (buildGroup ctx fuel key soft c) st) ∧
      (∀ p c k st, TV L L' D k st → cC D k + 1 + pdepth p ≤ fuel → NF (buildParam ctx fuel p c) st) ∧
      (∀ ps c k st, TV L L' D k st → cC D k + 2 + pdepthL ps ≤ fuel → NF (buildList ctx fuel ps c) st) := by
  intro fuel
  induction fuel with
  | zero =>
    refine ⟨?_, ?_, ?_, ?_, ?_, ?_⟩
    · intro n c k st _ _ h; unfold cC at h; omega
    · intro d s k st _ _ _ h; unfold cC at h; omega
    · intro key opt c k st _ h; omega
    · intro key soft c k st _ h; omega
    · intro p c k st _ h; omega
    · intro ps c k st _ h; omega
  | succ fuel ih =>
    obtain ⟨ihC, ihD, ihS, ihG, ihP, ihL⟩ := ih
    obtain ⟨fC, fD, fS, fG, fP, fL⟩ := engine_flags ctx L L' fuel
    refine ⟨?_, ?_, ?_, ?_, ?_, ?_⟩
    · -- callCtor
      intro n c k st hn hv hk
      refine ne_of_sat (Q := fun _ _ => True) ?_
      rw [callCtor_succ]
      split
      · trivial
      · rename_i hcalled
        split
        · exact nofun
        · rename_i hon
          have hc : (st.ctor n).called = false := by simpa using hcalled
          have ho : (st.ctor n).onStack = false := by simpa using hon
          -- the constructor was idle: entering it pays for `D + 3` further levels
          cases k with
          | zero => have := idle_setOnStack (L' := L') st n hv.vl.2.1 hn hc ho; have := hv.idle; omega
          | succ k' =>
            have hb := ihL (st.ctor n).params c k' _ (hv.modCtor n hn hc ho) (by have := hv.dc n; rw [cC_succ] at hk; omega)
            exact callFrame_ne (g := .fuel) nofun hb fun args s =>
              (ctorTail_sat ctx n _ args s).mono (fun _ _ h => h) (fun _ _ h => h.2)
    · -- callDeco
      intro d s k st hd hne hv hk
      refine ne_of_sat (Q := fun _ _ => True) ?_
      rw [callDeco_succ]
      split
      · trivial
      · rename_i hcalled
        have hr : (st.deco d).state = .ready := by
          cases hs : (st.deco d).state with
          | ready => rfl
          | onStack => exact absurd hs hne
          | called => rw [hs] at hcalled; simp at hcalled
        cases k with
        | zero => have := idle_decoOnStack (L := L) st d hv.vl.2.2 hd hr; have := hv.idle; omega
        | succ k' =>
          have hb := ihL (st.deco d).params (st.deco d).s k' _ (hv.modDeco d hd hr)
            (by have := hv.dd d; rw [cC_succ] at hk; omega)
          exact callFrame_ne (g := .fuel) nofun hb fun args s =>
            (decoTail_sat ctx d _ args s).mono (fun _ _ h => h) (fun _ _ h => h.2)
    · -- buildSingle
      intro key opt c k st hv hk
      refine ne_of_sat (Q := fun _ _ => True) ?_
      rw [buildSingle_succ]
      split
      · rename_i d ds hfd
        obtain ⟨_, _, _, hdec, hst, _⟩ := findDeco_spec st key _ d ds hfd
        have hdl : d < L' := hv.decoLt hdec
        refine bind_sat (sat_of_ne (I := fun _ => True)
          (wrapErr_ne _ nofun (ihD d ds k st hdl hst hv (by omega))) trivial) fun _ s' _ => ?_
        split
        · trivial
        · exact nofun
      · split
        · trivial
        · split
          · trivial
          · split
            · trivial
            · exact nofun
          · rename_i pc ns hfp
            obtain ⟨_, _, _, hns, _⟩ := findProviders_provs st key _ pc ns hfp
            refine bind_sat (firstM_inv (I := TV L L' D k) hv fun n hn s1 hv1 => ?_) fun early s' _ => ?_
            · have hnL : n < L := hv.provLt (hns ▸ hn)
              refine sat_of_ne (providerStep_ne nofun (ihC n _ k s1 hnL hv1 (by omega))) ?_
              rw [providerStep_state]
              exact hv1.step (fC n _ hnL s1 hv1.vl)
            · split
              · trivial
              · split
                · trivial
                · exact nofun
    · -- buildGroup
      intro key soft c k st hv hk
      refine ne_of_sat (buildGroup_inv (I := TV L L' D k) (fun _ _ _ => Fail.wrap_ne nofun) hv ?_ ?_)
      · intro s _ d s1 hv1 hdec hns
        have hdl : d < L' := hv1.decoLt hdec
        exact sat_of_ne (ihD d s k s1 hdl hns hv1 (by omega)) (hv1.step (fD d s s1 hdl hv1.vl hns))
      · intro _ s _ n s3 s4 hv3 hn hv4
        have hnL : n < L := hv3.provLt hn
        exact sat_of_ne (ihC n _ k s4 hnL hv4 (by omega)) (hv4.step (fC n _ hnL s4 hv4.vl))
    · -- buildParam
      intro p c k st hv hk
      cases p with
      | single key opt =>
        rw [buildParam_succ]
        simp only [pdepth] at hk
        exact ihS key opt c k st hv (by omega)
      | grouped ty key soft pg =>
        rw [buildParam_succ]
        simp only [pdepth] at hk
        exact ihG key soft c k st hv (by omega)
      | object ty fs =>
        simp only [pdepth] at hk
        exact ne_of_sat (fields_inv hv fun f hf s hs =>
          sat_of_ne (ihP f c k s hs (by have := pdepth_le_of_mem hf; omega)) (hs.step (fP f c s hs.vl)))
    · -- buildList
      intro ps c k st hv hk
      refine ne_of_sat (Q := fun _ => TV L L' D k) ?_
      rw [buildList_succ]
      exact mapM_inv hv fun f hf s hs =>
        sat_of_ne (ihP f c k s hs (by have := pdepth_le_of_mem hf; omega)) (hs.step (fP f c s hs.vl))

theorem le_foldl_max (l : List Nat) : ∀ (a x : Nat), (x ≤ a ∨ x ∈ l) → x ≤ l.foldl max a := by
  induction l with
  | nil => exact fun a x h => h.elim id nofun
  | cons y ys ih =>
    intro a x h
    refine ih (max a y) x ?_
    rcases h with h | h
    · exact Or.inl (Nat.le_trans h (Nat.le_max_left _ _))
    · rcases List.mem_cons.mp h with rfl | h
      · exact Or.inl (Nat.le_max_right _ _)
      · exact Or.inr h

theorem getD_le_foldl_max {α : Type} (g : α → Nat) (l : List α) (n : Nat) (d : α) (hd : g d = 0) :
    g (l.getD n d) ≤ (l.map g).foldl max 0 := by
  rw [List.getD_eq_getElem?_getD]
  cases h : l[n]? with
  | none => rw [Option.getD_none, hd]; exact Nat.zero_le _
  | some x => exact le_foldl_max _ 0 _ (Or.inr (List.mem_map_of_mem (List.mem_of_getElem? h)))

theorem maxDepth_ctor (st : St) (ps : List Param) (n : Nat) : pdepthL (st.ctor n).params ≤ maxDepth st ps := by
  have := getD_le_foldl_max (fun c : CtorNode => pdepthL c.params) st.ctors n default rfl
  unfold maxDepth St.ctor; omega

theorem maxDepth_deco (st : St) (ps : List Param) (d : Nat) : pdepthL (st.deco d).params ≤ maxDepth st ps := by
  have := getD_le_foldl_max (fun c : DecoNode => pdepthL c.params) st.decos d default rfl
  unfold maxDepth St.deco; omega

theorem buildList_engineFuel (ctx : Ctx) (st : St) (hv : ValidReg st) (ps : List Param) (c : Nat) :
    NF (buildList ctx (engineFuel st ps) ps c) st := by
  have hTV : TV st.ctors.length st.decos.length (maxDepth st ps) (st.ctors.length + st.decos.length) st :=
    ⟨⟨hv, rfl, rfl⟩, maxDepth_ctor st ps, maxDepth_deco st ps, idle_le _ _ st⟩
  apply (engine_nofuel ctx st.ctors.length st.decos.length (maxDepth st ps) (engineFuel st ps)).2.2.2.2.2 ps c _ st hTV
  have hp : pdepthL ps ≤ maxDepth st ps := by unfold maxDepth; omega
  unfold engineFuel cC
  have e1 : (st.ctors.length + st.decos.length + 1) * (maxDepth st ps + 3) =
      (st.ctors.length + st.decos.length) * (maxDepth st ps + 3) + (maxDepth st ps + 3) := Nat.succ_mul _ _
  rw [e1]
  generalize (st.ctors.length + st.decos.length) * (maxDepth st ps + 3) = X
  omega

theorem failToVerdict_fuel : ∀ f : Fail, failToVerdict f = .fuel → f = .fuel
  | .fuel, _ => rfl

/-- `Invoke` never answers "out of fuel": the parse and the acyclicity check have no such answer, the resolver has
    budget enough, and the invoked function is called once -/
theorem apiInvoke_nofuel {st : St} (h : HInv st) (ctx : Ctx) (fn : Fn) (s : Nat) (info : Bool) :
    (apiInvoke ctx fn st s info).2.v ≠ .fuel := by
  refine apiInvoke_cases (P := fun x => x.2.v ≠ .fuel) (fun _ _ => nofun) (fun _ _ _ _ => nofun)
    (fun _ _ _ _ _ _ _ => nofun) ?_ ?_
  · intro _ params w v _ _ hck
    rcases invokeCheck_error w s v hck with ⟨_, rfl, _⟩ | rfl <;> nofun
  · intro _ params w w3 hpp _ hck
    have hw : HInv w := h.ghOnly (by have := ghOnly_parseParams ctx.env st s fn; rwa [hpp] at this)
    have hw3 : HInv w3 := by
      rcases invokeCheck_ok hck with e | ⟨_, e⟩ <;> rw [e]
      · exact hw
      · exact hw.modVerified s true
    refine invokeRun_cases (P := fun x => x.2.v ≠ .fuel) (fun f w4 hb hc => ?_) fun _ _ r _ _ _ _ => ?_
    · have := wrapErr_ne .argsFailed (g := .fuel) nofun (buildList_engineFuel ctx w3 hw3.valid params s)
      rw [hb, failToVerdict_fuel f hc] at this
      exact this rfl
    · cases r with
      | dry => nofun
      | ok => nofun
      | err => simp only [callVerdict]; split <;> nofun
      | panic => simp only [callVerdict]; split <;> nofun

theorem step_nofuel {st : St} (h : HInv st) (ctx : Ctx) (fns : List Fn) (i : Nat) (op : Op) :
    (step ctx fns st i op).2.v ≠ .fuel := by
  refine step_cases ctx fns st i op (P := fun x => x.2.v ≠ .fuel) (fun _ _ _ => nofun) ?_ ?_ ?_ ?_
  · exact fun s f o fn _ _ _ => apiProvide_cases ctx fn _ i s o (P := fun x => x.2.toOpRes.v ≠ .fuel)
      (fun _ _ _ => nofun) (fun _ _ _ _ _ _ => nofun) (fun _ _ _ _ _ _ => nofun)
  · exact fun s f cb info fn _ _ _ => apiDecorate_cases ctx fn _ i s cb info (P := fun x => x.2.toOpRes.v ≠ .fuel)
      (fun _ => nofun) (fun _ _ _ _ _ _ _ _ _ => nofun)
  · exact fun s f info fn _ _ _ => apiInvoke_nofuel h.resetLog ctx fn s info
  · rintro v (rfl | rfl) <;> nofun

theorem runOps_nofuel (ctx : Ctx) (fns : List Fn) (ops : List Op) (i : Nat) (st : St) (acc : List OpRes)
    (h : HInv st) (hacc : ∀ r ∈ acc, r.v ≠ .fuel) : ∀ r ∈ (runOps ctx fns ops i st acc).2, r.v ≠ .fuel :=
  (runOps_inv_all (I := HInv) (P := fun r => r.v ≠ .fuel)
    (fun _ i op h => ⟨h.step ctx fns i op, step_nofuel h ctx fns i op⟩) ops i st acc h hacc).2

end Dig
