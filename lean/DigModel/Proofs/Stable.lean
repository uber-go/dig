import DigModel.Proofs.RegOKApi
/-
  Once a single value is cached it is never replaced: the only writer of `values[S][k]` is a
  successful execution of a constructor that declares `k` and lives in `S`; such a constructor is
  unique (`RegInv`), it is marked built when the first value is written (`Just`), and a built
  constructor is never executed again (`Flags`).
-/
namespace Dig

theorem okExits_pos_of_mem (w : Who) (f x : Nat) (l : List Event) (h : Event.exit w f x .ok ∈ l) : 1 ≤ okExits w l := by
  unfold okExits
  apply List.countP_pos_iff.mpr
  exact ⟨_, h, by simp [isOkExit]⟩

def Wr (a b : St) : Prop :=
  RegFrame a b ∧ ∃ l, b.hist = a.hist ++ l ∧
    (∀ S k, (aget (a.scope S).values k).isSome = true → (aget (b.scope S).values k).isSome = true) ∧
    ∀ S k v', aget (b.scope S).values k = some v' →
      aget (a.scope S).values k = some v' ∨
      ∃ n f x, n < a.ctors.length ∧ (a.ctor n).s = S ∧ k ∈ ctorKeys a n ∧ Event.exit (.ctor n) f x .ok ∈ l

theorem Wr.refl (a : St) : Wr a a := ⟨RegFrame.refl a, [], by simp, fun _ _ h => h, fun _ _ _ h => Or.inl h⟩

theorem ctorKeys_regFrame {a b : St} (h : RegFrame a b) (n : Nat) : ctorKeys b n = ctorKeys a n := by
  unfold ctorKeys; rw [(h.ctorStatic n).results]

theorem Wr.trans {a b c : St} (h1 : Wr a b) (h2 : Wr b c) : Wr a c := by
  obtain ⟨r1, l1, e1, k1, w1⟩ := h1
  obtain ⟨r2, l2, e2, k2, w2⟩ := h2
  refine ⟨r1.trans r2, l1 ++ l2, by rw [e2, e1, List.append_assoc], fun S k h => k2 S k (k1 S k h), ?_⟩
  intro S k v' hv
  rcases w2 S k v' hv with h | ⟨n, f, x, hn, hs, hk, hex⟩
  · rcases w1 S k v' h with h' | ⟨n, f, x, hn, hs, hk, hex⟩
    · exact Or.inl h'
    · exact Or.inr ⟨n, f, x, hn, hs, hk, List.mem_append_left _ hex⟩
  · refine Or.inr ⟨n, f, x, by rw [r1.ctorsLen]; exact hn, by rw [(r1.ctorStatic n).s]; exact hs,
      by rw [← ctorKeys_regFrame r1]; exact hk, List.mem_append_right _ hex⟩

theorem FlagsOnly.wr {a b : St} (h : FlagsOnly a b) : Wr a b :=
  ⟨h.reg, [], by simp [h.hist], fun S k hk => by rw [scope_of_scopes_eq h.scopes S]; exact hk,
   fun S k v' hv => Or.inl (by rw [← scope_of_scopes_eq h.scopes S]; exact hv)⟩

theorem ctorTail_values_keep (ctx : Ctx) (n : Nat) (node : CtorNode) (args : List Val) (st : St) (S : Nat) (k : Key)
    (h : (aget (st.scope S).values k).isSome = true) :
    (aget ((ctorTail ctx n node args st).2.scope S).values k).isSome = true :=
  ctorTail_scope_cases ctx n node args st S (P := fun sc => (aget sc.values k).isSome = true) h
    fun ret _ _ _ => extractSlots_keeps ctx.env ret node.results _ k h

theorem wr_ctorTail (ctx : Ctx) (hnd : ctx.cfg.dry = false) (st : St) (n : Nat) (node : CtorNode) (args : List Val)
    (hst : CtorStatic node (st.ctor n)) : Wr st (ctorTail ctx n node args st).2 := by
  obtain ⟨lb, lc, hh, _, hb, _⟩ := ctorTail_log ctx n node args st
  refine ⟨regFrame_ctorTail ctx st n node args, lb ++ lc, hh, ctorTail_values_keep ctx n node args st, fun S k v' => ?_⟩
  refine ctorTail_scope_cases ctx n node args st S
    (P := fun sc => aget sc.values k = some v' → aget (st.scope S).values k = some v' ∨
      ∃ n f x, n < st.ctors.length ∧ (st.ctor n).s = S ∧ k ∈ ctorKeys st n ∧ Event.exit (.ctor n) f x .ok ∈ lb ++ lc)
    Or.inl fun ret hret hs _ hv => ?_
  rcases extractSlots_values ctx.env ret node.results (st.scope S) k v' hv with h1 | ⟨slot, decl, hm, _⟩
  · exact Or.inl h1
  · have hn := (ctorTail_commit ctx st n node args hst hret (fun e => by rw [e] at hm; cases hm)).1
    -- the body returned normally (not dry): its successful exit is among the appended events
    cases hbr : (callBody ctx (.ctor n) node.fn args st).1 with
    | ok x len =>
      refine Or.inr ⟨n, node.fn.id, x, hn, by rw [← hst.s]; exact hs, ?_, ?_⟩
      · unfold ctorKeys
        rw [← hst.results]
        exact List.mem_map.mpr ⟨(k, slot, decl), hm, rfl⟩
      · rcases hb with ⟨hd, _⟩ | ⟨_, rfl⟩
        · rw [hd] at hnd; cases hnd
        · apply List.mem_append_left
          rw [callBody_spec ctx hnd] at hbr
          simp only at hbr
          obtain ⟨rfl, hk⟩ := bodyRes_ok_x ctx node.fn st x len hbr
          unfold bodyEvents
          simp [hk]
    | dry => rw [callBody_spec ctx hnd] at hbr; exact absurd hbr (bodyRes_ne_dry ctx node.fn st)
    | err x o => rw [hbr] at hret; cases hret
    | panic x => rw [hbr] at hret; cases hret

theorem wr_decoTail (ctx : Ctx) (st : St) (d : Nat) (node : DecoNode) (args : List Val) :
    Wr st (decoTail ctx d node args st).2 := by
  obtain ⟨lb, lc, hh, _⟩ := decoTail_log ctx d node args st
  exact ⟨regFrame_decoTail ctx st d node args, lb ++ lc, hh,
    fun S k h => by rw [decoTail_values]; exact h, fun S k v' h => Or.inl (by rw [← decoTail_values ctx d node args st S]; exact h)⟩

theorem wr_leaf (ctx : Ctx) (hnd : ctx.cfg.dry = false) : LeafRel2 ctx Wr where
  refl := Wr.refl
  trans := Wr.trans
  toReg h := h.1
  setOnStack st n := (flagsOnly_onStack st n true).wr
  clearOnStack st n := (flagsOnly_onStack st n false).wr
  ctorTail st n node args hst := wr_ctorTail ctx hnd st n node args hst
  decoOnStack st d := (flagsOnly_decoOnStack st d).wr
  decoFinally st d := (flagsOnly_decoFinally st d).wr
  decoTail st d node args _ := wr_decoTail ctx st d node args

def Stable (a b : St) : Prop := ∀ S k v, aget (a.scope S).values k = some v → aget (b.scope S).values k = some v

theorem Stable.refl (a : St) : Stable a a := fun _ _ _ h => h
theorem Stable.trans {a b c : St} (h1 : Stable a b) (h2 : Stable b c) : Stable a c := fun S k v h => h2 S k v (h1 S k v h)
theorem stable_of_cacheSame {a b : St} (h : CacheSame a b) : Stable a b := fun S k v hv => by rw [(h.2.2 S).1]; exact hv

theorem stable_buildList (ctx : Ctx) (hnd : ctx.cfg.dry = false) {st : St} (hj : Just ctx.env st) (hr : RegInv st)
    (hv : ValidReg st) (fuel : Nat) (ps : List Param) (c : Nat) : Stable st (buildList ctx fuel ps c st).2 := by
  obtain ⟨_, l, hl, hkeep, hw⟩ := (engine_pres2 ctx (wr_leaf ctx hnd) fuel).2.2.2.2.2 ps c st
  have hf := (engine_flags ctx st.ctors.length st.decos.length fuel).2.2.2.2.2 ps c st ⟨hv, rfl, rfl⟩
  obtain ⟨l', hl', _, hc, _⟩ := hf.ext
  have hll : l' = l := List.append_cancel_left (hl'.symm.trans hl)
  subst hll
  intro S k v hcached
  have hsome := hkeep S k (by rw [hcached]; rfl)
  cases hb : aget ((buildList ctx fuel ps c st).2.scope S).values k with
  | none => rw [hb] at hsome; cases hsome
  | some v' =>
    rcases hw S k v' hb with h1 | ⟨n, f, x, hn, hs, hk, hex⟩
    · rw [hcached] at h1; exact h1.symm ▸ rfl
    · exfalso
      obtain ⟨n0, slot, decl, hn0, hs0, hc0, hm0, _⟩ := hj S k v hcached
      have hk0 : k ∈ ctorKeys st n0 := List.mem_map.mpr ⟨(k, slot, decl), hm0, rfl⟩
      have h1 := hr.regOK n hn k hk
      have h2 := hr.regOK n0 hn0 k hk0
      rw [hs] at h1; rw [hs0] at h2
      have heq := hr.uniq S k n n0 h1 h2 hk hk0
      subst heq
      have := (hc n).2.1 hc0
      have hpos := okExits_pos_of_mem (.ctor n) f x l' hex
      omega

theorem stable_invoke (ctx : Ctx) (hnd : ctx.cfg.dry = false) {st : St} (hj : Just ctx.env st) (hr : RegInv st)
    (hh : HInv st) (fn : Fn) (s : Nat) (info : Bool) : Stable st (apiInvoke ctx fn st s info).1 := by
  have hg := ghOnly_parseParams ctx.env st s fn
  have hrb := parse_rollback_eq ctx.env st s fn
  have hcs := cacheSame_ghOnly hg
  refine apiInvoke_cases (P := fun x => Stable st x.1) (fun _ _ => Stable.refl st) ?_ ?_ ?_ ?_
  · intro _ e w hpp; rw [hpp] at hrb; rw [hrb]; exact Stable.refl st
  · intro _ params w _ _ hpp _; rw [hpp] at hcs; exact stable_of_cacheSame hcs
  · intro _ params w _ hpp _ _; rw [hpp] at hcs; exact stable_of_cacheSame hcs
  · intro _ params w w3 hpp _ hck
    rw [hpp] at hg hcs
    have hkw : CtorsKeep st w := ctorsKeep_of_ctors_eq hg.ctors.symm
    have hjw : Just ctx.env w := hj.cacheSame hcs hkw
    have hrw : RegInv w := hr.of_keep (by rw [hg.ctors]) hkw (by rw [hg.scopesLen]; exact Nat.le_refl _)
      (fun j => (hg.scope j).providers.symm)
    have h3 : CacheSame w w3 ∧ Just ctx.env w3 ∧ RegInv w3 ∧ HInv w3 := by
      rcases invokeCheck_ok hck with e | ⟨_, e⟩
      · rw [e]; exact ⟨CacheSame.refl _, hjw, hrw, hh.ghOnly hg⟩
      · rw [e]
        have hc : CacheSame w (w.modScope s fun x => { x with verified := true }) :=
          cacheSame_modScope _ s _ (fun _ => ⟨rfl, rfl, rfl, rfl⟩)
        refine ⟨hc, hjw.cacheSame hc (ctorsKeep_of_ctors_eq rfl), ?_, (hh.ghOnly hg).modVerified s true⟩
        refine hrw.of_keep rfl (ctorsKeep_of_ctors_eq rfl) (by simp [St.modScope]) ?_
        intro j; rw [scope_modScope]; split <;> rfl
    obtain ⟨hc3, hj3, hr3, hh3⟩ := h3
    have hst : Stable st (buildList ctx (engineFuel w3 params) params s w3).2 :=
      ((stable_of_cacheSame hcs).trans (stable_of_cacheSame hc3)).trans
        (stable_buildList ctx hnd hj3 hr3 hh3.valid (engineFuel w3 params) params s)
    refine invokeRun_inv (I := Stable st) hst fun args w4 hb => ?_
    rw [hb] at hst
    exact hst.trans fun S k v hv => by rw [scope_of_scopes_eq (callBody_fields ctx .invoked fn args w4).1 S]; exact hv

theorem stable_step (ctx : Ctx) (hnd : ctx.cfg.dry = false) {st : St} (hj : Just ctx.env st) (hr : RegInv st)
    (hh : HInv st) (fns : List Fn) (i : Nat) (op : Op) : Stable st (Dig.step ctx fns st i op).1 := by
  have e0 : Stable st { st with log := [] } := fun _ _ _ h => h
  refine step_cases ctx fns st i op (P := fun x => Stable st x.1) ?_ ?_ ?_ ?_ (fun _ _ => e0)
  · exact fun p _ _ => e0.trans (stable_of_cacheSame (cacheSame_apiScope _ p))
  · exact fun s _ o fn _ _ _ => e0.trans (stable_of_cacheSame (cacheSame_apiProvide ctx fn _ i s o))
  · exact fun s _ cb info fn _ _ _ => e0.trans (stable_of_cacheSame (cacheSame_apiDecorate ctx fn _ i s cb info))
  · exact fun s _ info fn _ _ _ => e0.trans (stable_invoke ctx hnd ((Just.stepInv ctx fns).reset st hj)
      ((RegInv.stepInv ctx fns).reset st hr) hh.resetLog fn s info)

theorem stable_runOps (ctx : Ctx) (hnd : ctx.cfg.dry = false) (fns : List Fn) (ops : List Op) (i : Nat) (st : St)
    (acc : List OpRes) (hj : Just ctx.env st) (hr : RegInv st) (hh : HInv st) :
    Stable st (Dig.runOps ctx fns ops i st acc).1 :=
  (runOps_inv_all (I := fun w => Stable st w ∧ Just ctx.env w ∧ RegInv w ∧ HInv w) (P := fun _ => True)
    (fun _ i op ⟨hs, hj, hr, hh⟩ => ⟨⟨hs.trans (stable_step ctx hnd hj hr hh fns i op), Just.step ctx hj fns i op,
      hr.step ctx fns i op, hh.step ctx fns i op⟩, trivial⟩)
    ops i st acc ⟨Stable.refl st, hj, hr, hh⟩ fun _ _ => trivial).1.1

end Dig
