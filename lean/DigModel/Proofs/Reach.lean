import DigModel.Proofs.Frame
import DigModel.Proofs.Lookup
import DigModel.Proofs.Body
import DigModel.Proofs.Scopes
/-
  Laziness: the only constructors and decorators whose functions the resolver enters are those
  *reachable* from what it was asked to build — through the decorators of a key on the path to the
  root, the providers of a single key in the nearest providing scope, the providers of a hard
  (non-soft) value group on the path, and recursively the parameters of those nodes, each seen from
  the node's own scope.  Soft groups reach providers through nothing but their decorators.
-/
namespace Dig

/-- a leaf dependency: a single key, or a value group (with its softness) -/
inductive Lf where
  | single (k : Key)
  | group (k : Key) (soft : Bool)
  deriving Repr

def Lf.key : Lf → Key
  | .single k => k
  | .group k _ => k

mutual
def leaves : Param → List Lf
  | .single k _ => [.single k]
  | .grouped _ k soft _ => [.group k soft]
  | .object _ fs => leavesL fs
def leavesL : List Param → List Lf
  | [] => []
  | p :: ps => leaves p ++ leavesL ps
end

theorem mem_leavesL {l : Lf} : ∀ {ps : List Param}, l ∈ leavesL ps ↔ ∃ p ∈ ps, l ∈ leaves p
  | [] => by simp [leavesL]
  | p :: ps => by
    simp only [leavesL, List.mem_append, List.mem_cons, exists_eq_or_imp, mem_leavesL (ps := ps)]

theorem mem_leaves_object {l : Lf} {ty : Nat} {fs : List Param} : l ∈ leaves (.object ty fs) ↔ ∃ f ∈ fs, l ∈ leaves f := by
  rw [leaves]; exact mem_leavesL

theorem mem_leaves_single {l : Lf} {k : Key} {opt : Bool} : l ∈ leaves (.single k opt) ↔ l = .single k := by
  rw [leaves]; exact List.mem_singleton

theorem mem_leaves_grouped {l : Lf} {ty : Nat} {k : Key} {soft : Bool} {pg : Nat} :
    l ∈ leaves (.grouped ty k soft pg) ↔ l = .group k soft := by
  rw [leaves]; exact List.mem_singleton

/-- providers of `k` in the nearest scope of the path that has any -/
def nearestProv (st : St) (k : Key) : List Nat → Option (Nat × List Nat)
  | [] => none
  | s :: rest =>
    match agetL (st.scope s).providers k with
    | [] => nearestProv st k rest
    | n :: ns => some (s, n :: ns)

/-- node `w` may be run when leaf `l` is built from scope `c` -/
inductive Reach (st : St) : Nat → Lf → Who → Prop
  | decoSelf {c : Nat} {l : Lf} {s d : Nat} : s ∈ st.ancestors c → aget (st.scope s).decorators l.key = some d →
      Reach st c l (.deco d)
  | decoDep {c : Nat} {l : Lf} {s d : Nat} {l' : Lf} {w : Who} : s ∈ st.ancestors c →
      aget (st.scope s).decorators l.key = some d → l' ∈ leavesL (st.deco d).params → Reach st (st.deco d).s l' w →
      Reach st c l w
  | provSelf {c : Nat} {k : Key} {pc : Nat} {ns : List Nat} {n : Nat} :
      nearestProv st k (st.ancestors c) = some (pc, ns) → n ∈ ns → Reach st c (.single k) (.ctor n)
  | provDep {c : Nat} {k : Key} {pc : Nat} {ns : List Nat} {n : Nat} {l' : Lf} {w : Who} :
      nearestProv st k (st.ancestors c) = some (pc, ns) → n ∈ ns → l' ∈ leavesL (st.ctor n).params →
      Reach st (st.ctor n).origS l' w → Reach st c (.single k) w
  | grpSelf {c : Nat} {k : Key} {s n : Nat} : s ∈ st.ancestors c → n ∈ agetL (st.scope s).providers k →
      Reach st c (.group k false) (.ctor n)
  | grpDep {c : Nat} {k : Key} {s n : Nat} {l' : Lf} {w : Who} : s ∈ st.ancestors c →
      n ∈ agetL (st.scope s).providers k → l' ∈ leavesL (st.ctor n).params → Reach st (st.ctor n).origS l' w →
      Reach st c (.group k false) w

/-- what calling constructor `n` with view `c` may run -/
def ReachC (st : St) (n c : Nat) (w : Who) : Prop :=
  w = .ctor n ∨ ∃ l ∈ leavesL (st.ctor n).params, Reach st c l w

/-- what calling decorator `d` may run -/
def ReachD (st : St) (d : Nat) (w : Who) : Prop :=
  w = .deco d ∨ ∃ l ∈ leavesL (st.deco d).params, Reach st (st.deco d).s l w

/-! ### what a node on the way to a leaf may run, building the leaf may run -/

theorem ReachD.sub {st : St} {c : Nat} {l : Lf} {s d : Nat} (hs : s ∈ st.ancestors c)
    (hd : aget (st.scope s).decorators l.key = some d) {w : Who} (hw : ReachD st d w) : Reach st c l w := by
  rcases hw with rfl | ⟨l', hl', hr⟩
  · exact .decoSelf hs hd
  · exact .decoDep hs hd hl' hr

theorem ReachC.sub_single {st : St} {c : Nat} {k : Key} {pc : Nat} {ns : List Nat} {n : Nat}
    (hn : nearestProv st k (st.ancestors c) = some (pc, ns)) (hm : n ∈ ns) {w : Who}
    (hw : ReachC st n (st.ctor n).origS w) : Reach st c (.single k) w := by
  rcases hw with rfl | ⟨l', hl', hr⟩
  · exact .provSelf hn hm
  · exact .provDep hn hm hl' hr

theorem ReachC.sub_group {st : St} {c : Nat} {k : Key} {s n : Nat} (hs : s ∈ st.ancestors c)
    (hn : n ∈ agetL (st.scope s).providers k) {w : Who} (hw : ReachC st n (st.ctor n).origS w) :
    Reach st c (.group k false) w := by
  rcases hw with rfl | ⟨l', hl', hr⟩
  · exact .grpSelf hs hn
  · exact .grpDep hs hn hl' hr

/-! ### the events appended to the log -/

/-- the log grows by events whose `enter`s are all for nodes in `S` -/
def Only (S : Who → Prop) (a b : St) : Prop :=
  ∃ l, b.log = a.log ++ l ∧ ∀ e ∈ l, ∀ w f x args, e = Event.enter w f x args → S w

theorem Only.refl (S : Who → Prop) (a : St) : Only S a a := Grows.refl _ _

theorem Only.of_log_eq {S : Who → Prop} {a b : St} (h : b.log = a.log) : Only S a b := ⟨[], by simp [h], by simp⟩

theorem Only.trans {S : Who → Prop} {a b c : St} (h1 : Only S a b) (h2 : Only S b c) : Only S a c :=
  Grows.trans h1 h2

theorem Only.mono {S S' : Who → Prop} {a b : St} (h : Only S a b) (hs : ∀ w, S w → S' w) : Only S' a b := by
  obtain ⟨l, e, p⟩ := h
  exact ⟨l, e, fun ev hev w f x args he => hs w (p ev hev w f x args he)⟩

/-! ### the registry view is stable -/

theorem regFrame_ancestors {a b : St} (h : RegFrame a b) (s : Nat) : a.ancestors s = b.ancestors s :=
  ancestors_congr h.scopesLen (fun j => (h.scopeReg j).parent) s

theorem nearestProv_of_split (st : St) (k : Key) : ∀ (pre : List Nat) (pc : Nat) (post : List Nat),
    (∀ s ∈ pre, agetL (st.scope s).providers k = []) → agetL (st.scope pc).providers k ≠ [] →
    nearestProv st k (pre ++ pc :: post) = some (pc, agetL (st.scope pc).providers k) := by
  intro pre
  induction pre with
  | nil =>
    intro pc post _ hne
    simp only [List.nil_append, nearestProv]
    cases h : agetL (st.scope pc).providers k with
    | nil => exact absurd h hne
    | cons n ns => rfl
  | cons s rest ih =>
    intro pc post hpre hne
    simp only [List.cons_append, nearestProv]
    rw [hpre s (by simp)]
    exact ih pc post (fun s' hs' => hpre s' (by simp [hs'])) hne

/-- the decorator the resolver picks, in a state with the registry of `st0`, is registered in `st0` on the path -/
theorem findDeco_reg {st0 st : St} (h0 : RegFrame st0 st) {k : Key} {c d ds : Nat}
    (h : findDeco st k (st.ancestors c) = some (d, ds)) :
    ds ∈ st0.ancestors c ∧ aget (st0.scope ds).decorators k = some d := by
  obtain ⟨pre, post, hsplit, hdec, _, _⟩ := findDeco_spec st k _ d ds h
  refine ⟨?_, (h0.scopeReg ds).decorators ▸ hdec⟩
  rw [regFrame_ancestors h0, hsplit]
  exact List.mem_append_right _ (List.mem_cons_self ..)

/-- the providers the resolver picks, in a state with the registry of `st0`, are `st0`'s nearest on the path -/
theorem findProviders_nearest {st0 st : St} (h0 : RegFrame st0 st) {k : Key} {c pc : Nat} {ns : List Nat}
    (h : findProviders st k (st.ancestors c) = .providers pc ns) :
    nearestProv st0 k (st0.ancestors c) = some (pc, ns) := by
  obtain ⟨pre, post, hsplit, hns, hne, _, hpre⟩ := findProviders_provs st k _ pc ns h
  have hprov : ∀ s, (st0.scope s).providers = (st.scope s).providers := fun s => (h0.scopeReg s).providers
  rw [regFrame_ancestors h0, hsplit, hns, ← hprov pc]
  refine nearestProv_of_split st0 k pre pc post (fun s' hs' => ?_) ?_
  · rw [hprov s']; exact (hpre s' hs').2
  · rw [hprov pc, ← hns]; exact hne

/-! ### the tails enter exactly their own node -/

theorem only_tail (ctx : Ctx) (who : Who) (fn : Fn) (args : List Val) (st : St) {b : St} {lb lc : List Event}
    (hl : b.log = st.log ++ (lb ++ lc))
    (hb : (ctx.cfg.dry = true ∧ lb = []) ∨ (ctx.cfg.dry = false ∧ lb = bodyEvents ctx who fn args st))
    (hc : lc = [] ∨ ∃ op err rt, lc = [.cb op who fn.id err rt]) : Only (fun w => w = who) st b := by
  refine ⟨lb ++ lc, hl, ?_⟩
  intro e he w f x a heq
  rcases List.mem_append.mp he with h | h
  · rcases hb with ⟨_, rfl⟩ | ⟨_, rfl⟩
    · cases h
    · unfold bodyEvents at h
      simp only [List.mem_cons, List.not_mem_nil, or_false] at h
      rcases h with rfl | rfl
      · cases heq; rfl
      · cases heq
  · rcases hc with rfl | ⟨op, err, rt, rfl⟩
    · cases h
    · simp only [List.mem_singleton] at h; subst h; cases heq

theorem only_ctorTail (ctx : Ctx) (n : Nat) (node : CtorNode) (args : List Val) (st : St) :
    Only (fun w => w = .ctor n) st (ctorTail ctx n node args st).2 := by
  obtain ⟨lb, lc, _, hl, hb, hc⟩ := ctorTail_log ctx n node args st
  exact only_tail ctx _ _ _ _ hl hb hc

theorem only_decoTail (ctx : Ctx) (d : Nat) (node : DecoNode) (args : List Val) (st : St) :
    Only (fun w => w = .deco d) st (decoTail ctx d node args st).2 := by
  obtain ⟨lb, lc, _, hl, hb, hc⟩ := decoTail_log ctx d node args st
  exact only_tail ctx _ _ _ _ hl hb hc

/-! ### post-conditions threaded through the resolver -/

def OnlyR (st0 : St) (S : Who → Prop) (st : St) {α : Type} (r : Except Fail α × St) : Prop :=
  RegFrame st0 r.2 ∧ Only S st r.2

theorem OnlyR.mono {st0 st : St} {S S' : Who → Prop} {α : Type} {r : Except Fail α × St} (h : OnlyR st0 S st r)
    (hs : ∀ w, S w → S' w) : OnlyR st0 S' st r := ⟨h.1, h.2.mono hs⟩

/-- inside a call that started in `st` and may run the nodes in `S`: the registry is still that of `st0`, and the log
    has grown from `st`'s by `enter`s of nodes in `S` only -/
def OnlyI (st0 : St) (S : Who → Prop) (st s : St) : Prop := RegFrame st0 s ∧ Only S st s

section
variable {st0 st s : St} {S S' : Who → Prop} {α : Type} {r : Except Fail α × St}

theorem OnlyI.reg (h : OnlyI st0 S st s) : RegFrame st0 s := h.1

theorem OnlyI.start (h0 : RegFrame st0 st) : OnlyI st0 S st st := ⟨h0, Only.refl S st⟩

/-- a call from `s` that may run `S' ⊆ S` -/
theorem OnlyI.step (h : OnlyI st0 S st s) (hr : OnlyR st0 S' s r) (hs : ∀ w, S' w → S w) :
    Sat r (fun _ => OnlyI st0 S st) (fun _ => OnlyI st0 S st) :=
  sat_state.2 ⟨hr.1, h.2.trans (hr.2.mono hs)⟩

/-- a step that keeps registry and log -/
theorem OnlyI.frame {s' : St} (h : OnlyI st0 S st s) (hr : RegFrame s s') (hl : s'.log = s.log) : OnlyI st0 S st s' :=
  ⟨h.1.trans hr, h.2.trans (Only.of_log_eq hl)⟩

theorem OnlyR.of_sat (h : Sat r (fun _ => OnlyI st0 S st) (fun _ => OnlyI st0 S st)) : OnlyR st0 S st r :=
  sat_state.1 h

end

/-! ### the resolver enters only what is reachable -/

theorem engine_only (ctx : Ctx) (st0 : St) :
    ∀ fuel,
      (∀ n c st, RegFrame st0 st → OnlyR st0 (ReachC st0 n c) st (callCtor ctx fuel n c st)) ∧
      (∀ d s st, RegFrame st0 st → OnlyR st0 (ReachD st0 d) st (callDeco ctx fuel d s st)) ∧
      (∀ k opt c st, RegFrame st0 st → OnlyR st0 (Reach st0 c (.single k)) st (buildSingle ctx fuel k opt c st)) ∧
      (∀ k soft c st, RegFrame st0 st → OnlyR st0 (Reach st0 c (.group k soft)) st (buildGroup ctx fuel k soft c st)) ∧
      (∀ p c st, RegFrame st0 st → OnlyR st0 (fun w => ∃ l ∈ leaves p, Reach st0 c l w) st (buildParam ctx fuel p c st)) ∧
      (∀ ps c st, RegFrame st0 st → OnlyR st0 (fun w => ∃ l ∈ leavesL ps, Reach st0 c l w) st (buildList ctx fuel ps c st)) := by
  intro fuel
  induction fuel with
  | zero =>
    refine ⟨?_, ?_, ?_, ?_, ?_, ?_⟩ <;> intros <;> rename_i h0
    · rw [callCtor_zero]; exact OnlyI.start h0
    · rw [callDeco_zero]; exact OnlyI.start h0
    · rw [buildSingle_zero]; exact OnlyI.start h0
    · rw [buildGroup_zero]; exact OnlyI.start h0
    · rw [buildParam_zero]; exact OnlyI.start h0
    · rw [buildList_zero]; exact OnlyI.start h0
  | succ fuel ih =>
    obtain ⟨ihC, ihD, ihS, ihG, ihP, ihL⟩ := ih
    have hreg := regFrame_leaf ctx
    refine ⟨?_, ?_, ?_, ?_, ?_, ?_⟩
    · intro n c st h0
      have hI := OnlyI.start (S := ReachC st0 n c) h0
      rw [callCtor_succ]
      split
      · exact hI
      · split
        · exact hI
        · have h1 := hI.frame (hreg.setOnStack st n) rfl
          rw [← (h0.ctorStatic n).params]
          refine .of_sat (finally_sat (Q' := fun _ => OnlyI st0 _ st) (E' := fun _ => OnlyI st0 _ st) ?_
            (fun _ s hs => hs.frame (hreg.clearOnStack s n) rfl) (fun _ s hs => hs.frame (hreg.clearOnStack s n) rfl))
          refine bind_sat (R := fun _ => OnlyI st0 _ st)
            ((shallowCheck_sat _ _ _).mono (fun _ _ e => e ▸ h1) (fun _ _ e => e.1 ▸ h1)) fun _ s2 hs2 => ?_
          refine bind_sat (wrapErr_sat (hs2.step (ihL _ c s2 hs2.reg) fun _ => Or.inr) fun _ _ h => h) fun args s3 hs3 => ?_
          exact hs3.step ⟨hs3.reg.trans (hreg.ctorTail s3 n _ args), only_ctorTail ctx n _ args s3⟩ fun _ => Or.inl
    · intro d s st h0
      have hI := OnlyI.start (S := ReachD st0 d) h0
      rw [callDeco_succ]
      split
      · exact hI
      · have h1 := hI.frame (hreg.decoOnStack st d) rfl
        rw [← (h0.decoStatic d).params, ← (h0.decoStatic d).s]
        refine .of_sat (finally_sat (Q' := fun _ => OnlyI st0 _ st) (E' := fun _ => OnlyI st0 _ st) ?_
          (fun _ s hs => hs.frame (hreg.decoFinally s d) rfl) (fun _ s hs => hs.frame (hreg.decoFinally s d) rfl))
        refine bind_sat (R := fun _ => OnlyI st0 _ st)
          ((shallowCheck_sat _ _ _).mono (fun _ _ e => e ▸ h1) (fun _ _ e => e.1 ▸ h1)) fun _ s2 hs2 => ?_
        refine bind_sat (wrapErr_sat (hs2.step (ihL _ _ s2 hs2.reg) fun _ => Or.inr) fun _ _ h => h) fun args s3 hs3 => ?_
        exact hs3.step ⟨hs3.reg.trans (hreg.decoTail s3 d _ args), only_decoTail ctx d _ args s3⟩ fun _ => Or.inl
    · intro k opt c st h0
      have hI := OnlyI.start (S := Reach st0 c (.single k)) h0
      rw [buildSingle_succ]
      split
      · rename_i d ds hfd
        obtain ⟨hmem, hdec⟩ := findDeco_reg h0 hfd
        refine .of_sat (bind_sat (wrapErr_sat (hI.step (ihD d ds st h0) fun _ => ReachD.sub (l := .single k) hmem hdec) fun _ _ h => h)
          fun _ s' hs' => ?_)
        split <;> exact hs'
      · split
        · exact hI
        · split
          · exact hI
          · split <;> exact hI
          · rename_i pc ns hfp
            have hnear := findProviders_nearest h0 hfp
            refine .of_sat (bind_sat (firstM_inv hI fun n hn s1 hs1 => ?_) fun early s' hs' => ?_)
            · refine sat_state.2 (providerStep_state .. ▸ sat_state.1 (hs1.step (ihC n _ s1 hs1.reg) fun w hw => ?_))
              exact ReachC.sub_single hnear hn ((hs1.reg.ctorStatic n).origS ▸ hw)
            · split
              · exact hs'
              · split <;> exact hs'
    · intro k soft c st h0
      have hanc := regFrame_ancestors h0 c
      refine .of_sat (buildGroup_inv (fun _ _ _ h => h) (OnlyI.start (S := Reach st0 c (.group k soft)) h0)
        (fun s hs d s1 hs1 hd _ => ?_) fun hsoft s hs n s3 s4 hs3 hn hs4 => ?_)
      · have hdec : aget (st0.scope s).decorators k = some d := (hs1.reg.scopeReg s).decorators ▸ hd
        exact hs1.step (ihD d s s1 hs1.reg) fun _ => ReachD.sub (l := .group k soft) (hanc ▸ hs) hdec
      · have hn0 : n ∈ agetL (st0.scope s).providers k := (hs3.reg.scopeReg s).providers ▸ hn
        subst hsoft
        exact hs4.step (ihC n _ s4 hs4.reg) fun w hw => ReachC.sub_group (hanc ▸ hs) hn0 ((hs4.reg.ctorStatic n).origS ▸ hw)
    · intro p c st h0
      cases p with
      | single k opt => rw [buildParam_succ]; exact (ihS k opt c st h0).mono fun w hw => ⟨_, mem_leaves_single.2 rfl, hw⟩
      | grouped ty k soft pg =>
        rw [buildParam_succ]; exact (ihG k soft c st h0).mono fun w hw => ⟨_, mem_leaves_grouped.2 rfl, hw⟩
      | object ty fs =>
        exact .of_sat (fields_inv (OnlyI.start (S := fun w => ∃ l ∈ leaves (.object ty fs), Reach st0 c l w) h0)
          fun f hf s hs => hs.step (ihP f c s hs.reg) fun w ⟨l, hl, hr⟩ => ⟨l, mem_leaves_object.2 ⟨f, hf, hl⟩, hr⟩)
    · intro ps c st h0
      rw [buildList_succ]
      exact .of_sat (mapM_inv (OnlyI.start h0) fun p hp s hs =>
        hs.step (ihP p c s hs.reg) fun w ⟨l, hl, hr⟩ => ⟨l, mem_leavesL.2 ⟨p, hp, hl⟩, hr⟩)

end Dig
