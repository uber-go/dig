import DigModel.DotRender
/-
  The lexer reads a list of items back as its tokens, whenever the tokens are well-formed (identifiers made of identifier
  characters, quoted strings closed by their own last quote, HTML strings balanced) and two identifiers are never
  adjacent without white space.
-/
namespace Dig.DotRender
open Dig.DotSyntax Dig.DotText

def QClosed (s : List Char) : Prop := ∀ r acc, lexQuoted acc (s ++ '"' :: r) = some (acc ++ s, r)

def HClosed (s : List Char) : Prop := ∀ r, scan 1 [] (s ++ '>' :: r) = some (s, r)

def WfTok : Tok → Prop
  | .bare s => s ≠ [] ∧ ∀ c ∈ s, isIdChar c = true
  | .quoted s => QClosed s
  | .html s => HClosed s
  | _ => True

def isBare : Tok → Bool
  | .bare _ => true
  | _ => false

/-- `pb`: the last thing written was an identifier -/
def OkItems : Bool → List Item → Prop
  | _, [] => True
  | pb, .ws s :: rest => (∀ c ∈ s, isWs c = true) ∧ OkItems (pb && s.isEmpty) rest
  | pb, .tk t :: rest => WfTok t ∧ (isBare t = true → pb = false) ∧ OkItems (isBare t) rest

theorem OkItems.weaken : ∀ (is : List Item) (pb : Bool), OkItems true is → OkItems pb is
  | [], _, _ => trivial
  | .ws s :: rest, pb, h => by
    obtain ⟨h1, h2⟩ := h
    refine ⟨h1, ?_⟩
    cases hs : s.isEmpty with
    | true => rw [hs] at h2; simp only [Bool.and_true] at h2 ⊢; exact OkItems.weaken rest pb h2
    | false => rw [hs] at h2; simpa using h2
  | .tk t :: rest, pb, h => by
    obtain ⟨h1, h2, h3⟩ := h
    exact ⟨h1, fun hb => absurd (h2 hb) (by simp), h3⟩

theorem OkItems.append : ∀ (a b : List Item) (pb : Bool), OkItems pb a → OkItems true b → OkItems pb (a ++ b)
  | [], b, pb, _, hb => OkItems.weaken b pb hb
  | .ws _ :: rest, b, _, ha, hb => ⟨ha.1, OkItems.append rest b _ ha.2 hb⟩
  | .tk _ :: rest, b, _, ha, hb => ⟨ha.1, ha.2.1, OkItems.append rest b _ ha.2.2 hb⟩

theorem OkItems.flatMap {α : Type} (f : α → List Item) : ∀ (xs : List α), (∀ x ∈ xs, OkItems true (f x)) →
    OkItems true (xs.flatMap f)
  | [], _ => trivial
  | x :: rest, h => by
    rw [List.flatMap_cons]
    exact OkItems.append _ _ _ (h x (by simp)) (OkItems.flatMap f rest (fun y hy => h y (by simp [hy])))

theorem ws_not_id (c : Char) (h : isWs c = true) : isIdChar c = false := by
  unfold isWs at h
  simp only [Bool.or_eq_true, beq_iff_eq] at h
  rcases h with ((rfl | rfl) | rfl) | rfl <;> decide

theorem id_not (c d : Char) (h : isIdChar c = true) (hd : isIdChar d = false) : c ≠ d := by
  intro e; rw [e, hd] at h; cases h

theorem id_not_ws (c : Char) (h : isIdChar c = true) : isWs c = false := by
  cases hw : isWs c with
  | false => rfl
  | true => rw [ws_not_id c hw] at h; cases h

theorem text_cons (i : Item) (rest : List Item) : text (i :: rest) = i.text ++ text rest := by
  simp [text]

theorem lex_ws : ∀ (s : List Char), (∀ c ∈ s, isWs c = true) → ∀ (fuel : Nat) (T : List Char),
    lex (fuel + s.length) (s ++ T) = lex fuel T
  | [], _, fuel, T => by simp
  | c :: s, h, fuel, T => by
    have hc : isWs c = true := h c (by simp)
    have : fuel + (c :: s).length = (fuel + s.length) + 1 := by simp; omega
    rw [this, List.cons_append]
    show (if isWs c = true then _ else _) = _
    rw [if_pos hc]
    exact lex_ws s (fun d hd => h d (by simp [hd])) fuel T

theorem spanId_append : ∀ (a T : List Char), (∀ c ∈ a, isIdChar c = true) →
    (T = [] ∨ ∃ c r, T = c :: r ∧ isIdChar c = false) → spanId (a ++ T) = (a, T)
  | [], T, _, hT => by
    rcases hT with rfl | ⟨c, r, rfl, hc⟩
    · rfl
    · simp [spanId, hc]
  | c :: a, T, ha, hT => by
    have hc : isIdChar c = true := ha c (by simp)
    rw [List.cons_append]
    simp only [spanId, hc, if_true]
    rw [spanId_append a T (fun d hd => ha d (by simp [hd])) hT]

theorem tokText_head (t : Tok) (h : isBare t = false) : ∃ c r, tokText t = c :: r ∧ isIdChar c = false := by
  cases t <;> first | exact ⟨_, _, rfl, by decide⟩ | cases h

theorem startsNonId : ∀ (is : List Item), OkItems true is →
    text is = [] ∨ ∃ c r, text is = c :: r ∧ isIdChar c = false
  | [], _ => Or.inl rfl
  | .ws [] :: rest, h => by
    rw [text_cons]
    simpa [Item.text] using startsNonId rest (by simpa [OkItems] using h.2)
  | .ws (c :: s) :: rest, h => by
    rw [text_cons]
    exact Or.inr ⟨c, s ++ text rest, rfl, ws_not_id c (h.1 c (by simp))⟩
  | .tk t :: rest, h => by
    obtain ⟨c, r, e, hc⟩ := tokText_head t (Bool.eq_false_iff.mpr fun hb => Bool.noConfusion (h.2.1 hb))
    rw [text_cons, Item.text, e]
    exact Or.inr ⟨c, r ++ text rest, rfl, hc⟩

theorem lex_punct (t : Tok) (h : t.isId = false) (fuel : Nat) (T : List Char) :
    lex (fuel + 1) (tokText t ++ T) = (lex fuel T).map (t :: ·) := by
  cases t <;> first | rfl | cases h

theorem lex_quoted (fuel : Nat) (T : List Char) : lex (fuel + 1) ('"' :: T) =
    match lexQuoted [] T with
    | some (body, rest') => (lex fuel rest').map (Tok.quoted body :: ·)
    | none => none := rfl

theorem lex_html (fuel : Nat) (T : List Char) : lex (fuel + 1) ('<' :: T) =
    match lexHtml 1 [] T with
    | some (body, rest') => (lex fuel rest').map (Tok.html body :: ·)
    | none => none := rfl

theorem lex_id (c : Char) (hc : isIdChar c = true) (fuel : Nat) (T : List Char) :
    lex (fuel + 1) (c :: T) = (lex fuel (spanId T).2).map (Tok.bare (c :: (spanId T).1) :: ·) := by
  conv => lhs; unfold lex
  simp only [id_not_ws c hc, Bool.false_eq_true, if_false,
    id_not c '{' hc (by decide), id_not c '}' hc (by decide), id_not c '[' hc (by decide),
    id_not c ']' hc (by decide), id_not c ';' hc (by decide), id_not c ',' hc (by decide),
    id_not c '=' hc (by decide), id_not c '-' hc (by decide), id_not c '"' hc (by decide),
    id_not c '<' hc (by decide), hc, if_true]

theorem lex_items : ∀ (is : List Item) (pb : Bool), OkItems pb is → ∀ fuel, (text is).length < fuel →
    lex fuel (text is) = some (toks is) := by
  intro is
  induction is with
  | nil =>
    intro _ _ fuel hf
    cases fuel with
    | zero => exact absurd hf (Nat.not_lt_zero _)
    | succ f => rfl
  | cons i rest ih =>
    intro pb h fuel hf
    rw [text_cons] at hf ⊢
    rw [List.length_append] at hf
    cases i with
    | ws s =>
      have hf : s.length + (text rest).length < fuel := hf
      obtain ⟨k, rfl⟩ : ∃ k, fuel = k + s.length := ⟨fuel - s.length, by omega⟩
      exact (lex_ws s h.1 k (text rest)).trans (ih _ h.2 k (by omega))
    | tk t =>
      obtain ⟨hw, _, hr⟩ := h
      cases fuel with
      | zero => exact absurd hf (Nat.not_lt_zero _)
      | succ f =>
        cases t with
        | quoted s =>
          simp only [Item.text, tokText, List.cons_append, List.append_assoc, List.nil_append, List.length_cons,
            List.length_append, List.length_nil] at hf ⊢
          rw [lex_quoted, hw (text rest) []]
          exact congrArg (Option.map _) (ih _ hr f (by omega))
        | html s =>
          simp only [Item.text, tokText, List.cons_append, List.append_assoc, List.nil_append, List.length_cons,
            List.length_append, List.length_nil] at hf ⊢
          rw [lex_html, show lexHtml 1 [] (s ++ '>' :: text rest) = _ from hw (text rest)]
          exact congrArg (Option.map _) (ih _ hr f (by omega))
        | bare s =>
          obtain ⟨hne, hall⟩ := hw
          cases s with
          | nil => exact absurd rfl hne
          | cons c a =>
            have hf : a.length + 1 + (text rest).length < f + 1 := hf
            show lex (f + 1) (c :: (a ++ text rest)) = _
            rw [lex_id c (hall c List.mem_cons_self),
              spanId_append a (text rest) (fun d hd => hall d (List.mem_cons_of_mem _ hd)) (startsNonId rest hr),
              ih _ hr f (by omega)]
            rfl
        | _ =>
          rw [Item.text, lex_punct _ rfl, ih _ hr f, Option.map_some]
          · rfl
          · simp only [Item.text, tokText, List.length_cons, List.length_nil] at hf
            omega

theorem lexDot_items (is : List Item) (h : OkItems false is) : lexDot (text is) = some (toks is) :=
  lex_items is false h _ (by omega)

end Dig.DotRender
