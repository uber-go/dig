import DigModel.Api
import DigModel.Proofs.ParseRule
import DigModel.Proofs.Hoare
/-
  An object is its fields, one after the other: its fields are parsed exactly like the positional list of their
  types; a result object is extracted, key-checked and reported exactly like the list of its fields; a `name` tag on
  a result field is the `Name` option; the values built for the fields of a parameter object without soft groups
  are the object's value.
-/
namespace Dig

def FieldMeta.plain (m : FieldMeta) : Prop :=
  m.exported = true ∧ m.tags.group = "" ∧ m.tags.name = "" ∧ m.tags.optional = ""

theorem newParamField_plain (env : TyEnv) (m : FieldMeta) (t : GoT) (hm : m.plain) (s : List PGDesc) :
    newParamField env (m, t) s = newParam env t s := by
  obtain ⟨h1, h2, h3, h4⟩ := hm
  simp only [newParamField, h1, h2]
  rcases newParam_shape env t with (h | h | h) | ⟨i, fs, ig, rfl, h⟩ <;> rw [h]
  · rfl
  · rfl
  · simp [PM.pure, h3, h4, boolTag]
  · unfold PM.bind
    cases newParamFields env ig fs s with | mk r s' => cases r <;> rfl

theorem newParamFields_plain (env : TyEnv) (ignore : Bool) : ∀ (fs : List (FieldMeta × GoT)),
    (∀ f ∈ fs, f.2.isUniv tIn = false ∧ f.1.plain) → ∀ s,
    newParamFields env ignore fs s = newParamListAux env (fs.map (·.2)) s := by
  intro fs
  induction fs with
  | nil => intro _ s; simp [newParamFields, newParamListAux]
  | cons f rest ih =>
    intro h s
    obtain ⟨hf1, hf2⟩ := h f (by simp)
    obtain ⟨m, t⟩ := f
    have hexp : m.exported = true := hf2.1
    simp only [newParamFields, List.map_cons, newParamListAux]
    simp only at hf1
    rw [hf1]
    simp only [hexp, Bool.not_true, Bool.false_and, Bool.false_eq_true, if_false]
    rw [newParamField_plain env m t hf2 s]
    cases hp : newParam env t s with
    | mk r s' =>
      cases r with
      | error e => rfl
      | ok p =>
        simp only
        rw [ih (fun g hg => h g (by simp [hg])) s']

/-- **a parameter object with untagged fields parses to the object of the positional parse of its fields' types**:
    same descriptors in declaration order, same group-parameter graph nodes created, same error at the same point -/
theorem newParam_object_plain (env : TyEnv) (i : Nat) (inM : FieldMeta) (fs : List (FieldMeta × GoT)) (ignore : Bool)
    (hout : isOutT (.strct i ((inM, .univ tIn) :: fs)) = false) (houtp : embeds tOutPtr (.strct i ((inM, .univ tIn) :: fs)) = false)
    (hin : isInT (.strct i ((inM, .univ tIn) :: fs)) = true)
    (hig : boolTag inM.tags.ignore = .ok ignore)
    (hfs : ∀ f ∈ fs, f.2.isUniv tIn = false ∧ f.1.plain) (s : List PGDesc) :
    newParam env (.strct i ((inM, .univ tIn) :: fs)) s =
      match newParamListAux env (fs.map (·.2)) s with
      | (.ok ps, s') => (.ok (.object i ps), s')
      | (.error e, s') => (.error e, s') := by
  have hI : (GoT.univ tIn).isUniv tIn = true := by simp [GoT.isUniv]
  simp only [newParam, hout, houtp, hin, Bool.or_self, Bool.false_eq_true, if_false, if_true, hasInField, hI,
    Bool.true_or, findIgnoreTag, hig]
  simp only [newParamFields, hI, if_true]
  rw [newParamFields_plain env ignore fs hfs s]
  cases newParamListAux env (fs.map (·.2)) s with
  | mk r s' => cases r <;> rfl

/-- a variadic parameter is not a dependency: the signature parses as if it were not there -/
theorem newParamList_variadic (env : TyEnv) (fn : Fn) (hv : fn.variadic = true) :
    newParamList env fn = newParamList env { fn with ins := fn.ins.dropLast, variadic := false } := by
  simp [newParamList, hv]

/-! ### results -/

theorem extractSlots_object (env : TyEnv) (deco : Bool) (r : Ret) (sc : ScopeSt) (ty : Nat) (fs : List Result)
    (rest : List RSlot) :
    extractSlots env deco r sc (.val (.object ty fs) :: rest) = extractSlots env deco r sc (fs.map RSlot.val ++ rest) := by
  have h1 : ∀ (fs : List Result) (sc : ScopeSt), extractSlots env false r sc (fs.map RSlot.val ++ rest) =
      extractSlots env false r (extractResults env r sc fs) rest := by
    intro fs
    induction fs with
    | nil => intro sc; simp [extractResults]
    | cons x xs ih => intro sc; simp only [List.map_cons, List.cons_append, extractSlots, extractResults]; exact ih _
  have h2 : ∀ (fs : List Result) (sc : ScopeSt), extractSlots env true r sc (fs.map RSlot.val ++ rest) =
      extractSlots env true r (extractDecos env r sc fs) rest := by
    intro fs
    induction fs with
    | nil => intro sc; simp [extractDecos]
    | cons x xs ih => intro sc; simp only [List.map_cons, List.cons_append, extractSlots, extractDecos]; exact ih _
  cases deco with
  | false => simp only [extractSlots, extractResult, Bool.false_eq_true, if_false]; rw [h1]
  | true => simp only [extractSlots, extractDeco, if_true]; rw [h2]

theorem visitKeys_append (X : ScopeSt) : ∀ (a b : List Result) (seen : List Key),
    visitKeys X (a ++ b) seen = match visitKeys X a seen with
      | .ok seen' => visitKeys X b seen'
      | .error e => .error e := by
  intro a
  induction a with
  | nil => intro b seen; simp [visitKeys]
  | cons x xs ih =>
    intro b seen
    cases x with
    | single slot decl ty name as =>
      simp only [List.cons_append, visitKeys]
      cases visitKeys.chk X ((ty :: as).map fun t => ({ ty := t, name := name, group := "" } : Key)) seen with
      | error e => rfl
      | ok s' => simp only; exact ih b s'
    | grouped slot decl ty group fl as =>
      simp only [List.cons_append, visitKeys]
      exact ih b _
    | object ty fs =>
      simp only [List.cons_append, visitKeys]
      cases visitKeys X fs seen with
      | error e => rfl
      | ok s' => simp only; exact ih b s'

theorem visitKeys_object (X : ScopeSt) (ty : Nat) (fs rest : List Result) (seen : List Key) :
    visitKeys X (.object ty fs :: rest) seen = visitKeys X (fs ++ rest) seen := by
  rw [visitKeys_append]
  simp only [visitKeys]
  cases visitKeys X fs seen <;> rfl

theorem resultKeys_append (env : TyEnv) : ∀ (a b : List Result),
    resultKeys env (a ++ b) = match resultKeys env a with
      | .error e => .error e
      | .ok ks1 => match resultKeys env b with
        | .ok ks2 => .ok (ks1 ++ ks2)
        | .error e => .error e := by
  intro a
  induction a with
  | nil => intro b; simp only [List.nil_append, resultKeys]; cases resultKeys env b <;> simp
  | cons x xs ih =>
    intro b
    cases x with
    | single slot decl ty name as =>
      simp only [List.cons_append, resultKeys]
      rw [ih b]
      cases resultKeys env xs with
      | error e => rfl
      | ok k1 => simp only; cases resultKeys env b <;> simp
    | grouped slot decl ty group fl as =>
      simp only [List.cons_append, resultKeys]
      split
      · rfl
      · split
        · rfl
        · rw [ih b]
          cases resultKeys env xs with
          | error e => rfl
          | ok k1 => simp only; cases resultKeys env b <;> simp
    | object ty fs =>
      simp only [List.cons_append, resultKeys]
      cases resultKeys env fs with
      | error e => rfl
      | ok k0 =>
        simp only
        rw [ih b]
        cases resultKeys env xs with
        | error e => rfl
        | ok k1 => simp only; cases resultKeys env b <;> simp [List.append_assoc]

theorem resultKeys_object (env : TyEnv) (ty : Nat) (fs rest : List Result) :
    resultKeys env (.object ty fs :: rest) = resultKeys env (fs ++ rest) := by
  rw [resultKeys_append]
  simp only [resultKeys]
  cases resultKeys env fs with
  | error e => rfl
  | ok k => simp only; cases resultKeys env rest <;> rfl

theorem dotParams_flatMap : ∀ fs : List Param, dotParams fs = fs.flatMap dotParam
  | [] => by rw [dotParams]; rfl
  | f :: rest => by rw [dotParams, List.flatMap_cons, dotParams_flatMap rest]

theorem dotSlots_object (ty : Nat) (fs : List Result) (rest : List RSlot) :
    dotSlots (.val (.object ty fs) :: rest) = dotSlots (fs.map RSlot.val ++ rest) := by
  have h : ∀ fs : List Result, dotSlots (fs.map RSlot.val ++ rest) = dotResults fs ++ dotSlots rest := by
    intro fs
    induction fs with
    | nil => simp [dotResults]
    | cons x xs ih => simp only [List.map_cons, List.cons_append, dotSlots, dotResults, ih, List.append_assoc]
  simp only [dotSlots, dotResult, h]

/-- a `name` tag on an exported field of a result object is the `dig.Name` option on a positional result -/
theorem newResultField_name_tag (env : TyEnv) (o : ResultOpts) (slot : Nat) (m : FieldMeta) (t : GoT)
    (he : m.exported = true) (hg : m.tags.group = "") (hn : m.tags.name ≠ "") :
    newResultField env o slot (m, t) = newResult env { o with name := m.tags.name } slot t := by
  simp [newResultField, he, hg, hn]

theorem newResultField_plain (env : TyEnv) (o : ResultOpts) (slot : Nat) (m : FieldMeta) (t : GoT)
    (he : m.exported = true) (hg : m.tags.group = "") (hn : m.tags.name = "") :
    newResultField env o slot (m, t) = newResult env o slot t := by
  simp [newResultField, he, hg, hn]

/-! ### building -/

theorem mapM_length {α β : Type} {f : α → EM β} (xs : List α) (st : St) :
    Sat (mapM' xs f st) (fun bs _ => bs.length = xs.length) (fun _ _ => True) :=
  mapM_sat xs (I := fun pre bs _ => bs.length = pre.length) rfl fun pre x _ _ bs _ h =>
    sat_iff.mpr ⟨fun _ _ => by rw [List.length_append, List.length_append, h]; rfl, fun _ _ => trivial⟩

theorem interleave_cons_hard {f : Param} (hf : isSoft f = false) (ps : List Param) (v : Val) (hard soft : List Val) :
    interleave (f :: ps) (v :: hard) soft = v :: interleave ps hard soft := by
  cases f with
  | single k o => rfl
  | object ty fs => rfl
  | grouped ty k sft pg =>
    cases sft with
    | false => rfl
    | true => cases hf

end Dig
