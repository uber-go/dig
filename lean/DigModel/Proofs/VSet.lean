import DigModel.Proofs.MapScopes
import DigModel.Proofs.Frame
import DigModel.Proofs.Sim
/-
  The resolver neither reads nor writes the `isVerifiedAcyclic` flags: it commutes with any reassignment of them.
-/
namespace Dig

/-- reassign the `isVerifiedAcyclic` flag of every scope -/
def vset (g : Nat → Bool) (st : St) : St :=
  { st with scopes := st.scopes.mapIdx fun j x => { x with verified := g j } }

theorem vset_len (g : Nat → Bool) (st : St) : (vset g st).scopes.length = st.scopes.length := mapScopes_len _ st

theorem vset_scope (g : Nat → Bool) (st : St) (j : Nat) :
    (vset g st).scope j = if j < st.scopes.length then { st.scope j with verified := g j } else st.scope j :=
  mapScopes_scope _ st j

theorem vset_read {α : Type} (r : ScopeSt → α) (hr : ∀ x v, r { x with verified := v } = r x) (g : Nat → Bool) (st : St)
    (j : Nat) : r ((vset g st).scope j) = r (st.scope j) :=
  mapScopes_read _ r (fun _ _ => hr _ _) st j

@[simp] theorem vset_ctor (g : Nat → Bool) (st : St) (n : Nat) : (vset g st).ctor n = st.ctor n := rfl
@[simp] theorem vset_deco (g : Nat → Bool) (st : St) (d : Nat) : (vset g st).deco d = st.deco d := rfl
@[simp] theorem vset_ctors (g : Nat → Bool) (st : St) : (vset g st).ctors = st.ctors := rfl
@[simp] theorem vset_decos (g : Nat → Bool) (st : St) : (vset g st).decos = st.decos := rfl
@[simp] theorem vset_pgs (g : Nat → Bool) (st : St) : (vset g st).pgs = st.pgs := rfl
@[simp] theorem vset_clock (g : Nat → Bool) (st : St) : (vset g st).clock = st.clock := rfl
@[simp] theorem vset_log (g : Nat → Bool) (st : St) : (vset g st).log = st.log := rfl
@[simp] theorem vset_execCount (g : Nat → Bool) (st : St) (f : Nat) : (vset g st).execCount f = st.execCount f := rfl

theorem vset_modCtor (g : Nat → Bool) (st : St) (n : Nat) (f : CtorNode → CtorNode) :
    (vset g st).modCtor n f = vset g (st.modCtor n f) := rfl
theorem vset_modDeco (g : Nat → Bool) (st : St) (d : Nat) (f : DecoNode → DecoNode) :
    (vset g st).modDeco d f = vset g (st.modDeco d f) := rfl
theorem vset_emit (g : Nat → Bool) (st : St) (e : Event) : (vset g st).emit e = vset g (st.emit e) := rfl

theorem vset_modScope (g : Nat → Bool) (st : St) (s : Nat) (f : ScopeSt → ScopeSt)
    (hf : ∀ x v, f { x with verified := v } = { f x with verified := v }) :
    (vset g st).modScope s f = vset g (st.modScope s f) :=
  mapScopes_modScope _ st s f fun x => hf x _

theorem verified_blind (v : Bool) : CacheBlind fun x => { x with verified := v } :=
  ⟨fun _ _ => rfl, fun _ _ => rfl, fun _ _ => rfl, fun _ _ => rfl⟩

theorem vset_callBody (g : Nat → Bool) (ctx : Ctx) (who : Who) (fn : Fn) (args : List Val) (st : St) :
    callBody ctx who fn args (vset g st) = ((callBody ctx who fn args st).1, vset g (callBody ctx who fn args st).2) :=
  mapScopes_callBody _ ctx who fn args st

theorem vset_findDeco (g : Nat → Bool) (st : St) (k : Key) : ∀ anc, findDeco (vset g st) k anc = findDeco st k anc := by
  intro anc
  induction anc with
  | nil => rfl
  | cons s rest ih => simp only [findDeco, vset_read (·.decorators) (fun _ _ => rfl) g st s, vset_deco, ih]

def Comm (g : Nat → Bool) {α : Type} (m : EM α) : Prop := ∀ st, m (vset g st) = ((m st).1, vset g (m st).2)

theorem comm_iff_sim {g : Nat → Bool} {α : Type} {m : EM α} :
    Comm g m ↔ ∀ a b, MapRel (vset g) (fun _ => True) a b → Sim (MapRel (vset g) fun _ => True) (Upto True) (m a) (m b) :=
  ⟨fun h a _ hab => hab.1 ▸ sim_map_iff.mpr ⟨h a, trivial⟩, fun h st => (sim_map_iff.mp (h st _ ⟨rfl, trivial⟩)).1⟩

section
variable (g : Nat → Bool)

theorem comm_fail {α : Type} (e : Fail) : Comm g (EM.fail e : EM α) := fun _ => rfl

theorem comm_wrapErr {α : Type} {m : EM α} (w : DErr → DErr) (hm : Comm g m) : Comm g (EM.wrapErr m w) :=
  comm_iff_sim.mpr fun a b hab => sim_wrapErr w (comm_iff_sim.mp hm a b hab)

theorem comm_read {α ρ : Type} (rd : St → ρ) (k : ρ → EM α) (hr : ∀ st, rd (vset g st) = rd st) (hk : ∀ r, Comm g (k r)) :
    Comm g (fun st => k (rd st) st) := by
  intro st
  simp only [hr]
  exact hk (rd st) st

end

theorem mapScopes_reads (u : Nat → ScopeSt → ScopeSt) {P : St → Prop}
    (hkeep : ∀ j x, (u j x).parent = x.parent ∧ (u j x).providers = x.providers ∧ (u j x).values = x.values ∧
      (u j x).decoratedValues = x.decoratedValues ∧ (u j x).decoratedGroups = x.decoratedGroups ∧
      (u j x).groups = x.groups)
    (hfd : ∀ a, P a → ∀ k anc, findDeco (a.mapScopes u) k anc = findDeco a k anc) :
    Reads (MapRel (St.mapScopes u) P) True where
  ctor := by rintro a _ ⟨rfl, -⟩ n; rfl
  deco := by rintro a _ ⟨rfl, -⟩ d; rfl
  ancestors := by rintro a _ ⟨rfl, -⟩ c; exact (mapScopes_ancestors u (fun j x => (hkeep j x).1) a c).symm
  providers := by rintro a _ ⟨rfl, -⟩ s; exact (mapScopes_read u (·.providers) (fun j x => (hkeep j x).2.1) a s).symm
  findDeco := by rintro a _ ⟨rfl, h⟩ k anc; exact (hfd a h k anc).symm
  values := by
    rintro a _ ⟨rfl, -⟩ s k; exact .of_eq (by rw [mapScopes_read u (·.values) (fun j x => (hkeep j x).2.2.1) a s])
  dvalues := by
    rintro a _ ⟨rfl, -⟩ s k
    exact .of_eq (by rw [mapScopes_read u (·.decoratedValues) (fun j x => (hkeep j x).2.2.2.1) a s])
  dgroups := by
    rintro a _ ⟨rfl, -⟩ s k
    exact .of_eq (by rw [mapScopes_read u (·.decoratedGroups) (fun j x => (hkeep j x).2.2.2.2.1) a s])
  groups := by rintro a _ ⟨rfl, -⟩ _ s; exact (mapScopes_read u (·.groups) (fun j x => (hkeep j x).2.2.2.2.2) a s).symm

theorem vset_reads (g : Nat → Bool) : Reads (MapRel (vset g) fun _ => True) True :=
  mapScopes_reads _ (fun _ _ => ⟨rfl, rfl, rfl, rfl, rfl, rfl⟩) fun a _ => vset_findDeco g a

theorem vset_leaf (g : Nat → Bool) (ctx : Ctx) : Leaf ctx ctx (MapRel (vset g) fun _ => True) (fun _ => True) True where
  toReads := vset_reads g
  env := rfl
  sameIds := rfl
  okDeco := by intros; trivial
  modCtor := by rintro a _ ⟨rfl, -⟩ n f; exact ⟨vset_modCtor g a n f, trivial⟩
  modDeco := by rintro a _ ⟨rfl, -⟩ d _ f; exact ⟨vset_modDeco g a d f, trivial⟩
  ctorTail := by
    rintro a _ ⟨rfl, -⟩ n node args _ e
    cases e trivial
    exact sim_map_iff.mpr ⟨mapScopes_ctorTail _ (fun s => verified_blind (g s)) ctx n node args a, trivial⟩
  decoTail := by
    rintro a _ ⟨rfl, -⟩ d _ node args _ e
    cases e trivial
    exact sim_map_iff.mpr ⟨mapScopes_decoTail _ (fun s => verified_blind (g s)) ctx d node args a, trivial⟩

theorem comm_engine (g : Nat → Bool) (ctx : Ctx) :
    ∀ fuel,
      (∀ n c, Comm g (callCtor ctx fuel n c)) ∧
      (∀ d s, Comm g (callDeco ctx fuel d s)) ∧
      (∀ k opt c, Comm g (buildSingle ctx fuel k opt c)) ∧
      (∀ k soft c, Comm g (buildGroup ctx fuel k soft c)) ∧
      (∀ p c, Comm g (buildParam ctx fuel p c)) ∧
      (∀ ps c, Comm g (buildList ctx fuel ps c)) := by
  intro fuel
  obtain ⟨hC, hD, hS, hG, hP, hL⟩ := engine_sim (vset_leaf g ctx) fuel
  exact ⟨fun n c => comm_iff_sim.mpr (hC n c), fun d s => comm_iff_sim.mpr fun a b => hD d s a b trivial,
    fun k opt c => comm_iff_sim.mpr (hS k opt c), fun k soft c => comm_iff_sim.mpr (hG k soft c),
    fun p c => comm_iff_sim.mpr (hP p c), fun ps c => comm_iff_sim.mpr (hL ps c)⟩

end Dig
