import DigModel.Proofs.Sim
/-
  The resolver reads the configuration only through RecoverFromPanics and DryRun: two contexts that agree on
  those (and on types, script, forced error results, id mode) run the resolver identically.
-/
namespace Dig

structure CtxSame (ctx ctx' : Ctx) : Prop where
  env : ctx'.env = ctx.env
  script : ctx'.script = ctx.script
  forced : ctx'.forced = ctx.forced
  sameIds : ctx'.sameIds = ctx.sameIds
  recover : ctx'.cfg.recover = ctx.cfg.recover
  dry : ctx'.cfg.dry = ctx.cfg.dry

theorem CtxSame.beh {ctx ctx' : Ctx} (h : CtxSame ctx ctx') (f x : Nat) : ctx'.beh f x = ctx.beh f x := by
  unfold Ctx.beh Ctx.scripted; rw [h.script, h.forced]

theorem callBody_ctx {ctx ctx' : Ctx} (h : CtxSame ctx ctx') (who : Who) (fn : Fn) (args : List Val) :
    callBody ctx' who fn args = callBody ctx who fn args := by
  funext st
  unfold callBody
  simp only [h.dry, h.beh, h.env]

theorem ctorTail_ctx {ctx ctx' : Ctx} (h : CtxSame ctx ctx') (n : Nat) (node : CtorNode) (args : List Val) :
    ctorTail ctx' n node args = ctorTail ctx n node args := by
  funext st
  unfold ctorTail ctorOutcome ctorCommit
  simp only [callBody_ctx h, h.recover, h.env]

theorem decoTail_ctx {ctx ctx' : Ctx} (h : CtxSame ctx ctx') (d : Nat) (node : DecoNode) (args : List Val) :
    decoTail ctx' d node args = decoTail ctx d node args := by
  funext st
  unfold decoTail decoOutcome decoCommit
  simp only [callBody_ctx h, h.recover, h.env]

theorem ctxSame_leaf {ctx ctx' : Ctx} (h : CtxSame ctx ctx') : Leaf ctx' ctx Eq (fun _ => True) True where
  toReads := eq_reads True
  env := h.env
  sameIds := h.sameIds
  okDeco := by intros; trivial
  modCtor := by rintro a _ rfl n f; rfl
  modDeco := by rintro a _ rfl d _ f; rfl
  ctorTail := by rintro a _ rfl n node args _ e; exact sim_eq_iff.mpr (by rw [ctorTail_ctx h, e trivial])
  decoTail := by rintro a _ rfl d _ node args _ e; exact sim_eq_iff.mpr (by rw [decoTail_ctx h, e trivial])

theorem engine_ctx {ctx ctx' : Ctx} (h : CtxSame ctx ctx') :
    ∀ fuel,
      (∀ n c, callCtor ctx' fuel n c = callCtor ctx fuel n c) ∧
      (∀ d s, callDeco ctx' fuel d s = callDeco ctx fuel d s) ∧
      (∀ k opt c, buildSingle ctx' fuel k opt c = buildSingle ctx fuel k opt c) ∧
      (∀ k soft c, buildGroup ctx' fuel k soft c = buildGroup ctx fuel k soft c) ∧
      (∀ p c, buildParam ctx' fuel p c = buildParam ctx fuel p c) ∧
      (∀ ps c, buildList ctx' fuel ps c = buildList ctx fuel ps c) := by
  intro fuel
  obtain ⟨hC, hD, hS, hG, hP, hL⟩ := engine_sim (ctxSame_leaf h) fuel
  exact ⟨fun n c => funext fun st => sim_eq_iff.mp (hC n c st st rfl),
    fun d s => funext fun st => sim_eq_iff.mp (hD d s st st trivial rfl),
    fun k opt c => funext fun st => sim_eq_iff.mp (hS k opt c st st rfl),
    fun k soft c => funext fun st => sim_eq_iff.mp (hG k soft c st st rfl),
    fun p c => funext fun st => sim_eq_iff.mp (hP p c st st rfl),
    fun ps c => funext fun st => sim_eq_iff.mp (hL ps c st st rfl)⟩

end Dig
