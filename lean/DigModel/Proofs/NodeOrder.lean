import DigModel.Proofs.Rollback
/-
  The orders recorded for graph nodes.  A constructor keeps its orders in its own node, a value group in its `PGNode`;
  `newGraphNode` and `Scope` treat the two alike, and so do the lemmas here.
-/
namespace Dig

def nodeOrder (st : St) : GNode → Nat → Nat
  | .ctor m, s => orderOf (st.ctor m).orders s
  | .pg i, s => orderOf (st.pgs.getD i default).orders s

def NodeValid (st : St) : GNode → Prop
  | .ctor m => m < st.ctors.length
  | .pg i => i < st.pgs.length

instance (st : St) (x : GNode) : Decidable (NodeValid st x) := by
  cases x <;> simp only [NodeValid] <;> infer_instance

theorem NodeValid.mono {a b : St} {x : GNode} (hc : a.ctors.length ≤ b.ctors.length) (hp : a.pgs.length ≤ b.pgs.length)
    (h : NodeValid a x) : NodeValid b x := by
  cases x
  · exact Nat.lt_of_lt_of_le h hc
  · exact Nat.lt_of_lt_of_le h hp

theorem orderOf_setOrder (l : List (Nat × Nat)) (s o s' : Nat) :
    orderOf (setOrder l s o) s' = if s' = s then o else orderOf l s' := by
  induction l with
  | nil =>
    by_cases h : s' = s
    · subst h; simp [setOrder, orderOf]
    · simp [setOrder, orderOf, Ne.symm h, h]
  | cons x xs ih =>
    obtain ⟨a, b⟩ := x
    by_cases hab : a = s
    · subst hab
      by_cases h : s' = a
      · subst h; simp [setOrder, orderOf]
      · simp [setOrder, orderOf, Ne.symm h, h]
    · by_cases h2 : a = s'
      · subst h2; simp [setOrder, orderOf, hab]
      · simp [setOrder, orderOf, hab, h2, ih]

def nodeOrders (st : St) : GNode → List (Nat × Nat)
  | .ctor m => (st.ctor m).orders
  | .pg i => (st.pgs.getD i default).orders

theorem nodeOrder_eq (st : St) (x : GNode) (s : Nat) : nodeOrder st x s = orderOf (nodeOrders st x) s := by
  cases x <;> rfl

def modOrders (st : St) (f : List (Nat × Nat) → List (Nat × Nat)) : GNode → St
  | .ctor n => st.modCtor n fun c => { c with orders := f c.orders }
  | .pg i => { st with pgs := st.pgs.modify i fun p => { p with orders := f p.orders } }

theorem nodeOrders_modOrders (st : St) (f : List (Nat × Nat) → List (Nat × Nat)) (node x : GNode) :
    nodeOrders (modOrders st f node) x = if node = x ∧ NodeValid st x then f (nodeOrders st x) else nodeOrders st x := by
  cases node <;> cases x <;>
    simp only [modOrders, nodeOrders, NodeValid, St.modCtor, St.ctor, getD_modify, GNode.ctor.injEq, GNode.pg.injEq,
      reduceCtorEq, false_and, if_false]
  all_goals split <;> rfl

theorem modOrders_scopes (st : St) (f : List (Nat × Nat) → List (Nat × Nat)) (node : GNode) :
    (modOrders st f node).scopes = st.scopes := by
  cases node <;> rfl

theorem modOrders_lens (st : St) (f : List (Nat × Nat) → List (Nat × Nat)) (node : GNode) :
    (modOrders st f node).ctors.length = st.ctors.length ∧ (modOrders st f node).pgs.length = st.pgs.length := by
  cases node <;> simp [modOrders, St.modCtor]

theorem ghStep_eq (node : GNode) (w : St) (sc : Nat) :
    ghStep node w sc =
      modOrders (w.modScope sc fun x => { x with gh := x.gh ++ [node] }) (setOrder · sc (w.scope sc).gh.length) node := by
  cases node <;> rfl

theorem copyOrder_eq (child parent : Nat) (w : St) (y : GNode) :
    copyOrder child parent w y = modOrders w (fun os => setOrder os child (orderOf os parent)) y := by
  cases y <;> rfl

theorem ghStep_scope (node : GNode) (w : St) (sc j : Nat) : (ghStep node w sc).scope j =
    if sc = j ∧ j < w.scopes.length then { w.scope j with gh := (w.scope j).gh ++ [node] } else w.scope j := by
  rw [ghStep_eq, St.scope, modOrders_scopes]
  exact scope_modScope w sc j _

theorem ghStep_len (node : GNode) (w : St) (sc : Nat) : (ghStep node w sc).scopes.length = w.scopes.length ∧
    (ghStep node w sc).ctors.length = w.ctors.length ∧ (ghStep node w sc).pgs.length = w.pgs.length := by
  rw [ghStep_eq, modOrders_scopes]
  exact ⟨by simp [St.modScope], modOrders_lens _ _ _⟩

theorem ghStep_nodeOrder (node : GNode) (w : St) (sc : Nat) (x : GNode) (s : Nat) :
    nodeOrder (ghStep node w sc) x s =
      if x = node ∧ NodeValid w node ∧ s = sc then (w.scope sc).gh.length else nodeOrder w x s := by
  rw [nodeOrder_eq, ghStep_eq, nodeOrders_modOrders]
  show orderOf (if node = x ∧ NodeValid w x then _ else nodeOrders w x) s = _
  by_cases h : node = x ∧ NodeValid w x
  · obtain ⟨rfl, hv⟩ := h
    rw [if_pos ⟨rfl, hv⟩, orderOf_setOrder, ← nodeOrder_eq]; simp only [hv, true_and]; rfl
  · have h' : ¬ (x = node ∧ NodeValid w node ∧ s = sc) := fun h' => h ⟨h'.1.symm, h'.1 ▸ h'.2.1⟩
    rw [if_neg h, if_neg h', nodeOrder_eq]

end Dig
