import DigModel.Proofs.Frame
/-
  Refinement of `engine_pres`: the relation may rely on the fact that the node
  description handed to the two tails is the (static part of the) node stored
  in the state, because the resolver never changes the registry.
-/
namespace Dig

structure LeafRel2 (ctx : Ctx) (R : St → St → Prop) : Prop extends StepRel R where
  toReg : ∀ {a b}, R a b → RegFrame a b
  setOnStack : ∀ st n, R st (st.modCtor n fun x => { x with onStack := true })
  clearOnStack : ∀ st n, R st (st.modCtor n fun x => { x with onStack := false })
  ctorTail : ∀ st n node args, CtorStatic node (st.ctor n) → R st (ctorTail ctx n node args st).2
  decoOnStack : ∀ st d, R st (st.modDeco d fun x => { x with state := .onStack })
  decoFinally : ∀ st d, R st (st.modDeco d fun x => if x.state == .called then x else { x with state := .ready })
  decoTail : ∀ st d node args, DecoStatic node (st.deco d) → R st (decoTail ctx d node args st).2

theorem engine_pres2 (ctx : Ctx) {R : St → St → Prop} (h : LeafRel2 ctx R) :
    ∀ fuel,
      (∀ n c, Pres R (callCtor ctx fuel n c)) ∧
      (∀ d s, Pres R (callDeco ctx fuel d s)) ∧
      (∀ k opt c, Pres R (buildSingle ctx fuel k opt c)) ∧
      (∀ k soft c, Pres R (buildGroup ctx fuel k soft c)) ∧
      (∀ p c, Pres R (buildParam ctx fuel p c)) ∧
      (∀ ps c, Pres R (buildList ctx fuel ps c)) :=
  engine_rel ctx h.toStepRel h.setOnStack h.clearOnStack
    (fun _ st n args h0 => h.ctorTail st n _ args ((h.toReg h0).ctorStatic n))
    h.decoOnStack h.decoFinally (fun _ st d args h0 => h.decoTail st d _ args ((h.toReg h0).decoStatic d))

end Dig
