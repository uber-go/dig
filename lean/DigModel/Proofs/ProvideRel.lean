import DigModel.Proofs.ProvideShape
import DigModel.Proofs.Views
/-
  `Provide` on two containers side by side.  Its second stage (the acyclicity loop, then accept or roll back) reads the
  graph and writes flags, `nodes` and what the undo restores: it respects every relation between containers that
  these respect (`VerifyRel`).  With the registration stages of the two runs in agreement (`RegStage`), so do the
  two calls.
-/
namespace Dig

/-- a relation between containers that the steps of the second stage of `Provide` respect -/
structure VerifyRel (Rel : St → St → Prop) : Prop where
  graph : ∀ {a b}, Rel a b → GraphSame a b
  subscopes : ∀ {a b}, Rel a b → ∀ s, a.subscopes s = b.subscopes s
  flag : ∀ {a b}, Rel a b → ∀ sc v,
    Rel (a.modScope sc fun x => { x with verified := v }) (b.modScope sc fun x => { x with verified := v })
  nodes : ∀ {a b}, Rel a b → ∀ sc n,
    Rel (a.modScope sc fun x => { x with nodes := x.nodes ++ [n] }) (b.modScope sc fun x => { x with nodes := x.nodes ++ [n] })
  rollback : ∀ {a b wa wb}, Rel a b → Rel wa wb → ∀ t l, Rel (rollbackProvide a wa t l) (rollbackProvide b wb t l)

/-- both registration stages reject, with related containers and the same answer, or both register the same node -/
def RegStage (Rel : St → St → Prop) :
    Except (St × RegRes) (Nat × List Param × List RSlot × Nat × St) →
    Except (St × RegRes) (Nat × List Param × List RSlot × Nat × St) → Prop
  | .error r₁, .error r₂ => Rel r₁.1 r₂.1 ∧ r₁.2 = r₂.2
  | .ok (t₁, p₁, r₁, n₁, w₁), .ok (t₂, p₂, r₂, n₂, w₂) => t₁ = t₂ ∧ p₁ = p₂ ∧ r₁ = r₂ ∧ n₁ = n₂ ∧ Rel w₁ w₂
  | _, _ => False

section
variable {Rel : St → St → Prop} (H : VerifyRel Rel)
include H

theorem verifyScopes_rel {cfg₁ cfg₂ : Cfg} (hd : cfg₁.deferAcyclic = cfg₂.deferAcyclic) : ∀ (l : List Nat) (a b : St), Rel a b →
    (verifyScopes cfg₁ l a).1 = (verifyScopes cfg₂ l b).1 ∧ Rel (verifyScopes cfg₁ l a).2 (verifyScopes cfg₂ l b).2 := by
  intro l
  induction l with
  | nil => exact fun a b h => ⟨rfl, h⟩
  | cons sc rest ih =>
    intro a b h
    have h1 := H.flag h sc false
    simp only [verifyScopes, hd]
    split
    · exact ih _ _ h1
    · rw [(H.graph h1).checkAcyclic sc]
      split
      · exact ih _ _ (H.flag h1 sc true)
      · exact ⟨rfl, h1⟩

theorem provideVerify_rel {ctx₁ ctx₂ : Ctx} (hd : ctx₁.cfg.deferAcyclic = ctx₂.cfg.deferAcyclic) (fn : Fn) (o : ProvideOpts)
    (target : Nat) (params : List Param) (results : List RSlot) (n : Nat) {a b wa wb : St} (h : Rel a b) (hw : Rel wa wb) :
    Rel (provideVerify ctx₁ fn a o target params results n wa).1 (provideVerify ctx₂ fn b o target params results n wb).1 ∧
    (provideVerify ctx₁ fn a o target params results n wa).2 = (provideVerify ctx₂ fn b o target params results n wb).2 := by
  unfold provideVerify
  rw [H.subscopes h target]
  obtain ⟨v1, v2⟩ := verifyScopes_rel H hd (b.subscopes target) wa wb hw
  cases hva : verifyScopes ctx₁.cfg (b.subscopes target) wa with
  | mk ra w5a =>
    cases hvb : verifyScopes ctx₂.cfg (b.subscopes target) wb with
    | mk rb w5b =>
      rw [hva, hvb] at v1 v2
      simp only at v1 v2
      subst v1
      cases ra with
      | ok u => exact ⟨H.nodes v2 target n, rfl⟩
      | error ec =>
        obtain ⟨sc, cr⟩ := ec
        cases cr with
        | cycle p => exact ⟨H.rollback h v2 _ _, by simp only [cyclePath, (H.graph v2).gh sc]⟩
        | acyclic => exact ⟨v2, rfl⟩
        | outOfRange => exact ⟨v2, rfl⟩
        | fuel => exact ⟨v2, rfl⟩

/-- `Provide` on two related containers, in contexts that verify alike, once the registration stages agree -/
theorem apiProvide_rel {ctx₁ ctx₂ : Ctx} (hd : ctx₁.cfg.deferAcyclic = ctx₂.cfg.deferAcyclic) (fn : Fn) (i s : Nat)
    (o : ProvideOpts) {a b : St} (h : Rel a b)
    (hreg : RegStage Rel (provideRegister ctx₁ fn a i s o) (provideRegister ctx₂ fn b i s o)) :
    Rel (apiProvide ctx₁ fn a i s o).1 (apiProvide ctx₂ fn b i s o).1 ∧
    (apiProvide ctx₁ fn a i s o).2 = (apiProvide ctx₂ fn b i s o).2 := by
  rw [apiProvide_eq, apiProvide_eq]
  unfold apiProvide'
  cases h₁ : provideRegister ctx₁ fn a i s o with
  | error r₁ =>
    cases h₂ : provideRegister ctx₂ fn b i s o with
    | error r₂ => rw [h₁, h₂] at hreg; exact hreg
    | ok x₂ => rw [h₁, h₂] at hreg; exact hreg.elim
  | ok x₁ =>
    obtain ⟨t₁, p₁, r₁, n₁, w₁⟩ := x₁
    cases h₂ : provideRegister ctx₂ fn b i s o with
    | error r₂ => rw [h₁, h₂] at hreg; exact hreg.elim
    | ok x₂ =>
      obtain ⟨t₂, p₂, r₂, n₂, w₂⟩ := x₂
      rw [h₁, h₂] at hreg
      obtain ⟨rfl, rfl, rfl, rfl, hw⟩ := hreg
      exact provideVerify_rel H hd fn o t₁ p₁ r₁ n₁ h hw

end

end Dig
