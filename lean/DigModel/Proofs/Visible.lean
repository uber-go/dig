import DigModel.Proofs.GraphMeaningApi
/-
  Who sees a constructor: exactly the scopes that have the constructor's home scope on their path to the root.
-/
namespace Dig

theorem root_mem_ancestorsAux {st : St} (ht : TreeInv st) : ∀ n s, s ≤ n → s < st.scopes.length →
    0 ∈ ancestorsAux st.scopes (s + 1) s := by
  intro n
  induction n with
  | zero =>
    intro s hs hl
    exact mem_ancestorsAux_succ.mpr ⟨_, getElem?_scope hl, .inl (Nat.le_zero.mp hs).symm⟩
  | succ n ih =>
    intro s hs hl
    refine mem_ancestorsAux_succ.mpr ⟨_, getElem?_scope hl, ?_⟩
    cases hp : (st.scope s).parent with
    | none => exact .inl ((ht.root.2 s hl).mp hp).symm
    | some p =>
      obtain ⟨hlt, _⟩ := ht.up s hl p hp
      refine .inr ⟨p, rfl, ?_⟩
      rw [ancestorsAux_fuel st.scopes ht.wfParents s (p + 1) p hlt (Nat.lt_succ_self _)]
      exact ih p (Nat.le_of_lt_succ (Nat.lt_of_lt_of_le hlt hs)) (Nat.lt_trans hlt hl)

theorem root_mem_ancestors {st : St} (ht : TreeInv st) (s : Nat) (hl : s < st.scopes.length) : 0 ∈ st.ancestors s := by
  unfold St.ancestors
  rw [ancestorsAux_fuel st.scopes ht.wfParents _ (s + 1) s hl (Nat.lt_succ_self _)]
  exact root_mem_ancestorsAux ht s s (Nat.le_refl _) hl

/-- **a constructor is usable for a plain key it declares exactly from the scopes that have its home scope on their
    path to the root** (its own scope and every descendant, whenever created; never an ancestor or a sibling) -/
theorem visible_iff {env : TyEnv} {st : St} (hr : RegInv st) (hw : RegWF env st) (m : Nat) (hm : m < st.ctors.length) (k : Key)
    (hk : k ∈ ctorKeys st m) (hg : k.group = "") (s : Nat) :
    m ∈ st.allProviders s k ↔ (st.ctor m).s ∈ st.ancestors s := by
  constructor
  · intro h
    obtain ⟨a, ha, hma⟩ := mem_allProviders.mp h
    rw [(hw.provPlain a k m hma hg).1]; exact ha
  · exact fun h => mem_allProviders.mpr ⟨(st.ctor m).s, h, hr.regOK m hm k hk⟩

/-- a constructor whose home is the root (provided there, or anywhere with `Export(true)`) is usable from every scope -/
theorem root_visible_everywhere {st : St} (hr : RegInv st) (ht : TreeInv st) (m : Nat) (hm : m < st.ctors.length)
    (hhome : (st.ctor m).s = 0) (k : Key) (hk : k ∈ ctorKeys st m) (s : Nat) (hs : s < st.scopes.length) :
    m ∈ st.allProviders s k :=
  mem_allProviders.mpr ⟨0, root_mem_ancestors ht s hs, hhome ▸ hr.regOK m hm k hk⟩

end Dig
