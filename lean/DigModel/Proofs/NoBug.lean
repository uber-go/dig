import DigModel.Proofs.ParseWF
import DigModel.Proofs.RegOKApi
import DigModel.Proofs.GroupCalled
import DigModel.Proofs.Stable
/-
  The resolver never reaches a state the Go code could not handle (`Fail.bug`: a provider or decorator
  returned normally but the value it should have stored is missing — in Go: `reflect.Value.Call` on a
  zero Value).  This needs: a constructor listed under a *plain* key declares that key (group keys carry a
  non-empty group name since the repair of F11), and a built constructor has stored all its plain keys.
-/
namespace Dig

mutual
def groupNames : Result → List String
  | .single _ _ _ _ _ => []
  | .grouped _ _ _ group _ _ => [group]
  | .object _ fs => groupNamesL fs
def groupNamesL : List Result → List String
  | [] => []
  | r :: rs => groupNames r ++ groupNamesL rs
end

theorem groupNames_wf (r : Result) : ResWF r → ∀ g ∈ groupNames r, g ≠ "" := by
  apply groupNames.induct (motive_1 := fun r => ResWF r → ∀ g ∈ groupNames r, g ≠ "")
    (motive_2 := fun rs => RessWF rs → ∀ g ∈ groupNamesL rs, g ≠ "")
  · intro slot decl ty name as _ g hg; simp [groupNames] at hg
  · intro slot decl ty group fl as h g hg
    simp only [groupNames, List.mem_singleton] at hg
    subst hg
    cases fl with
    | true => exact h ({ ty := ty, name := "", group := g }, slot, decl, true) (by simp [groupLeaves])
    | false => exact h ({ ty := ty, name := "", group := g }, slot, decl, false) (by simp [groupLeaves])
  · intro ty fs ih h g hg
    simp only [groupNames] at hg
    exact ih (fun x hx => h x (by simp only [groupLeaves]; exact hx)) g hg
  · intro _ g hg; simp [groupNamesL] at hg
  · intro r rs ih1 ih2 h g hg
    simp only [groupNamesL, List.mem_append] at hg
    rcases hg with h1 | h1
    · exact ih1 (fun x hx => h x (by simp only [groupLeavesL, List.mem_append]; exact Or.inl hx)) g h1
    · exact ih2 (fun x hx => h x (by simp only [groupLeavesL, List.mem_append]; exact Or.inr hx)) g h1

theorem groupNamesL_wf (rs : List Result) (h : RessWF rs) : ∀ g ∈ groupNamesL rs, g ≠ "" := fun g hg =>
  groupNames_wf (.object 0 rs) (fun x hx => h x (by simp only [groupLeaves] at hx; exact hx)) g
    (by simp only [groupNames]; exact hg)

/-- every key `findAndValidateResults` returns was seen before, is a single key of the results, or carries the group
    name of a value-group result -/
theorem visitKeys_sub (target : ScopeSt) : ∀ (rs : List Result) (seen keys : List Key),
    visitKeys target rs seen = .ok keys →
    ∀ k ∈ keys, k ∈ seen ∨ k ∈ singleKeysL rs ∨ k.group ∈ groupNamesL rs := by
  refine visitKeys_rule target
    (fun rs seen keys => ∀ k ∈ keys, k ∈ seen ∨ k ∈ singleKeysL rs ∨ k.group ∈ groupNamesL rs)
    (fun seen k hk => Or.inl hk) ?_ ?_ ?_
  · intro slot decl ty name as rest seen seen' keys hc ih k hk
    obtain ⟨e, _, _⟩ := chk_ok target _ _ _ hc
    subst e
    rw [singleKeysL_single]
    rcases ih k hk with h1 | h1 | h1
    · rcases List.mem_append.mp h1 with h2 | h2
      · exact Or.inl h2
      · exact Or.inr (Or.inl (List.mem_append_left _ h2))
    · exact Or.inr (Or.inl (List.mem_append_right _ h1))
    · right; right; simp only [groupNamesL, groupNames, List.nil_append]; exact h1
  · intro slot decl ty group flatten as rest seen keys ih k hk
    rw [singleKeysL_grouped]
    rcases ih k hk with h1 | h1 | h1
    · rcases mem_of_foldl_addNew _ _ k h1 with h2 | h2
      · exact Or.inl h2
      · obtain ⟨t, _, rfl⟩ := List.mem_map.mp h2
        right; right; simp [groupNamesL, groupNames]
    · exact Or.inr (Or.inl h1)
    · right; right; simp only [groupNamesL, List.mem_append]; exact Or.inr h1
  · intro ty fs rest seen seen' keys ih1 ih2 k hk
    rw [singleKeysL_object]
    rcases ih2 k hk with h1 | h1 | h1
    · rcases ih1 k h1 with h2 | h2 | h2
      · exact Or.inl h2
      · exact Or.inr (Or.inl (List.mem_append_left _ h2))
      · right; right; simp only [groupNamesL, groupNames, List.mem_append]; exact Or.inl h2
    · exact Or.inr (Or.inl (List.mem_append_right _ h1))
    · right; right; simp only [groupNamesL, List.mem_append]; exact Or.inr h1

structure RegWF (env : TyEnv) (st : St) : Prop where
  ctorParams : ∀ n, n < st.ctors.length → ParamsWF (st.ctor n).params
  decoParams : ∀ d, d < st.decos.length → ParamsWF (st.deco d).params
  provPlain : ∀ S k n, n ∈ agetL (st.scope S).providers k → k.group = "" → (st.ctor n).s = S ∧ k ∈ ctorKeys st n
  decoPlain : ∀ s k d, aget (st.scope s).decorators k = some d → k.group = "" →
    d < st.decos.length ∧ (st.deco d).s = s ∧ ∃ slot decl, (false, k, slot, decl) ∈ slotDecoLeaves env (st.deco d).results

theorem RegWF.of_regFrame {env : TyEnv} {a b : St} (h : RegWF env a) (hf : RegFrame a b) : RegWF env b where
  ctorParams n hn := (hf.ctorStatic n).params ▸ h.ctorParams n (hf.ctorsLen ▸ hn)
  decoParams d hd := (hf.decoStatic d).params ▸ h.decoParams d (hf.decosLen ▸ hd)
  provPlain S k n hn hk := by
    rw [← (hf.scopeReg S).providers] at hn
    obtain ⟨h1, h2⟩ := h.provPlain S k n hn hk
    exact ⟨(hf.ctorStatic n).s ▸ h1, by rw [ctorKeys_regFrame hf]; exact h2⟩
  decoPlain s k d hd hk := by
    rw [← (hf.scopeReg s).decorators] at hd
    obtain ⟨h1, h2, slot, decl, h3⟩ := h.decoPlain s k d hd hk
    exact ⟨hf.decosLen ▸ h1, (hf.decoStatic d).s ▸ h2, slot, decl, (hf.decoStatic d).results ▸ h3⟩

structure Cached (env : TyEnv) (st : St) : Prop where
  ctor : ∀ n, n < st.ctors.length → (st.ctor n).called = true → ∀ k ∈ ctorKeys st n,
    (aget (st.scope (st.ctor n).s).values k).isSome = true
  deco : ∀ d, d < st.decos.length → (st.deco d).state = .called → ∀ k slot decl,
    (false, k, slot, decl) ∈ slotDecoLeaves env (st.deco d).results →
    (aget (st.scope (st.deco d).s).decoratedValues k).isSome = true

theorem Cached.init (env : TyEnv) : Cached env ({} : St) where
  ctor n hn := by simp at hn
  deco d hd := by simp at hd

structure HomeOK (st : St) : Prop where
  ctor : ∀ n, n < st.ctors.length → (st.ctor n).s < st.scopes.length
  deco : ∀ d, d < st.decos.length → (st.deco d).s < st.scopes.length

theorem HomeOK.of_regFrame {a b : St} (h : HomeOK a) (hf : RegFrame a b) : HomeOK b where
  ctor n hn := by rw [← (hf.ctorStatic n).s, ← hf.scopesLen]; exact h.ctor n (hf.ctorsLen ▸ hn)
  deco d hd := by rw [← (hf.decoStatic d).s, ← hf.scopesLen]; exact h.deco d (hf.decosLen ▸ hd)

theorem ctorTail_dv_keep (ctx : Ctx) (n : Nat) (node : CtorNode) (args : List Val) (st : St) (S : Nat) (k : Key)
    (h : (aget (st.scope S).decoratedValues k).isSome = true) :
    (aget ((ctorTail ctx n node args st).2.scope S).decoratedValues k).isSome = true :=
  ctorTail_scope_cases ctx n node args st S (P := fun sc => (aget sc.decoratedValues k).isSome = true) h
    fun ret _ _ _ => by rw [(extractSlots_decoCaches ctx.env ret node.results _).1]; exact h

theorem decoTail_dv_keep (ctx : Ctx) (d : Nat) (node : DecoNode) (args : List Val) (st : St) (S : Nat) (k : Key)
    (h : (aget (st.scope S).decoratedValues k).isSome = true) :
    (aget ((decoTail ctx d node args st).2.scope S).decoratedValues k).isSome = true :=
  decoTail_scope_cases ctx d node args st S (P := fun sc => (aget sc.decoratedValues k).isSome = true) h
    fun ret _ _ _ => (extractSlots_dv ctx.env ret node.results _).1 k h

theorem retOf_of_commits {fid : Nat} {b : BodyRes} (h : b.commits = true) : ∃ ret, retOf fid b = some ret := by
  cases b <;> first | exact ⟨_, rfl⟩ | cases h

/-- steps that keep scopes, node descriptions and the `called` marks of constructors; decorator marks may only be lost -/
theorem Cached.flags {env : TyEnv} {a b : St} (h : Cached env a) (hf : FlagsOnly a b) : Cached env b where
  ctor n hn hcl k hk := by
    rw [hf.called n] at hcl
    rw [ctorKeys_regFrame hf.reg] at hk
    rw [← (hf.reg.ctorStatic n).s, scope_of_scopes_eq hf.scopes]
    exact h.ctor n (hf.reg.ctorsLen ▸ hn) hcl k hk
  deco d hdl hst k slot decl hm := by
    rw [← (hf.reg.decoStatic d).results] at hm
    rw [← (hf.reg.decoStatic d).s, scope_of_scopes_eq hf.scopes]
    exact h.deco d (hf.reg.decosLen ▸ hdl) (hf.decoCalled d hst) k slot decl hm

theorem Cached.ctorTail {ctx : Ctx} {st : St} (h : Cached ctx.env st) (hh : HomeOK st) (n : Nat) (node : CtorNode)
    (args : List Val) (hst : CtorStatic node (st.ctor n)) : Cached ctx.env (Dig.ctorTail ctx n node args st).2 := by
  have hreg := regFrame_ctorTail ctx st n node args
  refine ⟨fun m hm hcl k hk => ?_, fun d hd hstt k slot decl hm => ?_⟩
  · have hm0 : m < st.ctors.length := hreg.ctorsLen ▸ hm
    rw [ctorKeys_regFrame hreg] at hk
    rw [← (hreg.ctorStatic m).s]
    rw [ctorTail_ctor] at hcl
    split at hcl
    · -- `m = n` has just been run successfully: its plain keys have been written
      rename_i hc
      obtain ⟨hcm, rfl, _⟩ := hc
      obtain ⟨ret, hret⟩ := retOf_of_commits (fid := node.fn.id) hcm
      rw [ctorTail_scope, hret]
      simp only
      rw [if_pos ⟨hst.s, hh.ctor n hm0⟩]
      obtain ⟨y, hy, rfl⟩ := List.mem_map.mp hk
      rw [← hst.results] at hy
      exact extractSlots_writes ctx.env ret node.results _ y hy
    · exact ctorTail_values_keep ctx n node args st _ k (h.ctor m hm0 hcl k hk)
  · have hde : (Dig.ctorTail ctx n node args st).2.deco d = st.deco d := by simp only [St.deco, ctorTail_decos]
    rw [hde] at hstt hm ⊢
    exact ctorTail_dv_keep ctx n node args st _ k
      (h.deco d (hreg.decosLen ▸ hd) hstt k slot decl hm)

theorem Cached.decoTail {ctx : Ctx} {st : St} (h : Cached ctx.env st) (hh : HomeOK st) (d : Nat) (node : DecoNode)
    (args : List Val) (hst : DecoStatic node (st.deco d)) : Cached ctx.env (Dig.decoTail ctx d node args st).2 := by
  have hreg := regFrame_decoTail ctx st d node args
  refine ⟨fun m hm hcl k hk => ?_, fun m hm hstt k slot decl hmem => ?_⟩
  · rw [ctorKeys_regFrame hreg] at hk
    rw [decoTail_ctor] at hcl ⊢
    rw [decoTail_values]
    exact h.ctor m (hreg.ctorsLen ▸ hm) hcl k hk
  · have hm0 : m < st.decos.length := hreg.decosLen ▸ hm
    rw [← (hreg.decoStatic m).results] at hmem
    rw [← (hreg.decoStatic m).s]
    rw [decoTail_deco] at hstt
    split at hstt
    · rename_i hc
      obtain ⟨hcm, rfl, _⟩ := hc
      obtain ⟨ret, hret⟩ := retOf_of_commits (fid := node.fn.id) hcm
      rw [decoTail_scope, hret]
      simp only
      rw [if_pos ⟨hst.s, hh.deco d hm0⟩]
      rw [← hst.results] at hmem
      exact (extractSlots_dv ctx.env ret node.results _).2 k slot decl hmem
    · exact decoTail_dv_keep ctx d node args st _ k (h.deco m hm0 hstt k slot decl hmem)

theorem cached_leaf (ctx : Ctx) : LeafRel2 ctx (InvRel fun st => HomeOK st ∧ Cached ctx.env st) :=
  invRel_leaf ctx (fun _ _ hf h => ⟨h.1.of_regFrame hf.reg, h.2.flags hf⟩)
    (fun st n node args hst h => ⟨h.1.of_regFrame (regFrame_ctorTail ctx st n node args), h.2.ctorTail h.1 n node args hst⟩)
    fun st d node args hst h => ⟨h.1.of_regFrame (regFrame_decoTail ctx st d node args), h.2.decoTail h.1 d node args hst⟩

/-! ### "does not end in a state Go cannot handle" -/

def NB {α : Type} (m : EM α) (st : St) : Prop := (m st).1 ≠ .error .bug

theorem nb_wrapErr {α : Type} {m : EM α} (w : DErr → DErr) {st : St} (hm : NB m st) : NB (EM.wrapErr m w) st :=
  wrapErr_ne w nofun hm

structure EI (env : TyEnv) (L L' : Nat) (st : St) : Prop where
  vl : VL L L' st
  home : HomeOK st
  wf : RegWF env st
  cached : Cached env st

section
variable {env : TyEnv} {L L' : Nat} {st : St} (h : EI env L L' st)
include h
theorem EI.ctorsLen : st.ctors.length = L := h.vl.2.1
theorem EI.decosLen : st.decos.length = L' := h.vl.2.2
theorem EI.provLt {s n : Nat} {k : Key} (hn : n ∈ agetL (st.scope s).providers k) : n < L := h.ctorsLen ▸ h.vl.1.1 s k n hn
theorem EI.decoLt {s d : Nat} {k : Key} (hd : aget (st.scope s).decorators k = some d) : d < L' := h.decosLen ▸ h.vl.1.2 s k d hd
end

theorem EI.step {env : TyEnv} {L L' : Nat} {a b : St} (h : EI env L L' a) (hf : Flags a b)
    (hc : InvRel (fun st => HomeOK st ∧ Cached env st) a b) : EI env L L' b :=
  ⟨VL.step h.vl hf, h.home.of_regFrame hf.reg, h.wf.of_regFrame hf.reg, (hc.inv ⟨h.home, h.cached⟩).2⟩

theorem EI.modCtorOnStack {env : TyEnv} {L L' : Nat} {st : St} (h : EI env L L' st) (n : Nat) (b : Bool) :
    EI env L L' (st.modCtor n fun x => { x with onStack := b }) :=
  have hf := flagsOnly_onStack st n b
  ⟨h.vl.modCtor n b, h.home.of_regFrame hf.reg, h.wf.of_regFrame hf.reg, h.cached.flags hf⟩

theorem EI.modDecoOnStack {env : TyEnv} {L L' : Nat} {st : St} (h : EI env L L' st) (d : Nat) :
    EI env L L' (st.modDeco d fun x => { x with state := .onStack }) :=
  have hf := flagsOnly_decoOnStack st d
  ⟨h.vl.modDeco d, h.home.of_regFrame hf.reg, h.wf.of_regFrame hf.reg, h.cached.flags hf⟩

section
variable (ctx : Ctx) (L L' : Nat)

theorem ei_callCtor (fuel n c : Nat) (hn : n < L) (st : St) (h : EI ctx.env L L' st) : EI ctx.env L L' (callCtor ctx fuel n c st).2 :=
  h.step ((engine_flags ctx L L' fuel).1 n c hn st h.vl) ((engine_pres2 ctx (cached_leaf ctx) fuel).1 n c st)

theorem ei_callDeco (fuel d s : Nat) (hd : d < L') (st : St) (h : EI ctx.env L L' st) (hs : (st.deco d).state ≠ .onStack) :
    EI ctx.env L L' (callDeco ctx fuel d s st).2 :=
  h.step ((engine_flags ctx L L' fuel).2.1 d s st hd h.vl hs) ((engine_pres2 ctx (cached_leaf ctx) fuel).2.1 d s st)

theorem ei_buildSingle (fuel : Nat) (k : Key) (opt : Bool) (c : Nat) (st : St) (h : EI ctx.env L L' st) :
    EI ctx.env L L' (buildSingle ctx fuel k opt c st).2 :=
  h.step ((engine_flags ctx L L' fuel).2.2.1 k opt c st h.vl) ((engine_pres2 ctx (cached_leaf ctx) fuel).2.2.1 k opt c st)

theorem ei_buildGroup (fuel : Nat) (k : Key) (soft : Bool) (c : Nat) (st : St) (h : EI ctx.env L L' st) :
    EI ctx.env L L' (buildGroup ctx fuel k soft c st).2 :=
  h.step ((engine_flags ctx L L' fuel).2.2.2.1 k soft c st h.vl) ((engine_pres2 ctx (cached_leaf ctx) fuel).2.2.2.1 k soft c st)

theorem ei_buildParam (fuel : Nat) (p : Param) (c : Nat) (st : St) (h : EI ctx.env L L' st) :
    EI ctx.env L L' (buildParam ctx fuel p c st).2 :=
  h.step ((engine_flags ctx L L' fuel).2.2.2.2.1 p c st h.vl) ((engine_pres2 ctx (cached_leaf ctx) fuel).2.2.2.2.1 p c st)

theorem ei_buildList (fuel : Nat) (ps : List Param) (c : Nat) (st : St) (h : EI ctx.env L L' st) :
    EI ctx.env L L' (buildList ctx fuel ps c st).2 :=
  h.step ((engine_flags ctx L L' fuel).2.2.2.2.2 ps c st h.vl) ((engine_pres2 ctx (cached_leaf ctx) fuel).2.2.2.2.2 ps c st)

end

theorem paramWF_of_mem {ty : Nat} {fs : List Param} (h : ParamWF (.object ty fs)) {f : Param} (hf : f ∈ fs) : ParamWF f := by
  intro l hl
  exact h l (by simp only [leaves]; exact mem_leavesL.mpr ⟨f, hf, hl⟩)

theorem paramWF_of_mem_list {ps : List Param} (h : ParamsWF ps) {p : Param} (hp : p ∈ ps) : ParamWF p := by
  intro l hl
  exact h l (mem_leavesL.mpr ⟨p, hp, hl⟩)

theorem engine_nobug (ctx : Ctx) (L L' : Nat) :
    ∀ fuel,
      (∀ n c st, n < L → EI ctx.env L L' st → NB (callCtor ctx fuel n c) st) ∧
      (∀ d s st, d < L' → EI ctx.env L L' st → NB (callDeco ctx fuel d s) st) ∧
      (∀ k opt c st, k.group = "" → EI ctx.env L L' st → NB (buildSingle ctx fuel k opt c) st) ∧
      (∀ k soft c st, EI ctx.env L L' st → NB (buildGroup ctx fuel k soft c) st) ∧
      (∀ p c st, ParamWF p → EI ctx.env L L' st → NB (buildParam ctx fuel p c) st) ∧
      (∀ ps c st, ParamsWF ps → EI ctx.env L L' st → NB (buildList ctx fuel ps c) st) := by
  intro fuel
  induction fuel with
  | zero =>
    refine ⟨?_, ?_, ?_, ?_, ?_, ?_⟩ <;> intros <;> refine ne_of_sat (Q := fun _ _ => True) ?_
    · rw [callCtor_zero]; exact nofun
    · rw [callDeco_zero]; exact nofun
    · rw [buildSingle_zero]; exact nofun
    · rw [buildGroup_zero]; exact nofun
    · rw [buildParam_zero]; exact nofun
    · rw [buildList_zero]; exact nofun
  | succ fuel ih =>
    obtain ⟨ihC, ihD, ihS, ihG, ihP, ihL⟩ := ih
    refine ⟨?_, ?_, ?_, ?_, ?_, ?_⟩
    · -- callCtor
      intro n c st hn h
      refine ne_of_sat (Q := fun _ _ => True) ?_
      rw [callCtor_succ]
      split
      · trivial
      · split
        · exact nofun
        · exact callFrame_ne (g := .bug) nofun (ihL _ c _ (h.wf.ctorParams n (h.ctorsLen ▸ hn)) (h.modCtorOnStack n true))
            fun args s => (ctorTail_sat ctx n _ args s).mono (fun _ _ h => h) (fun _ _ h => h.1)
    · -- callDeco
      intro d s st hd h
      refine ne_of_sat (Q := fun _ _ => True) ?_
      rw [callDeco_succ]
      split
      · trivial
      · exact callFrame_ne (g := .bug) nofun (ihL _ _ _ (h.wf.decoParams d (h.decosLen ▸ hd)) (h.modDecoOnStack d))
          fun args s => (decoTail_sat ctx d _ args s).mono (fun _ _ h => h) (fun _ _ h => h.1)
    · -- buildSingle
      intro k opt c st hk h
      refine ne_of_sat (Q := fun _ _ => True) ?_
      rw [buildSingle_succ]
      split
      · rename_i d ds hfd
        obtain ⟨pre, post, hsplit, hdec, hns, _⟩ := findDeco_spec st k _ d ds hfd
        have hdL : d < L' := h.decoLt hdec
        obtain ⟨_, hds, slot, decl, hleaf⟩ := h.wf.decoPlain ds k d hdec hk
        have hrun := (sat_of_ne (I := fun s => EI ctx.env L L' s ∧ RegFrame st s) (ihD d ds st hdL h)
          ⟨ei_callDeco ctx L L' fuel d ds hdL st h hns, ((engine_flags ctx L L' fuel).2.1 d ds st hdL h.vl hns).reg⟩).and
          (callDeco_called ctx L L' fuel d ds hdL st h.vl)
        refine bind_sat (wrapErr_sat hrun fun _ _ h => Fail.wrap_ne nofun h.1) ?_
        rintro _ st' ⟨⟨hei, hreg⟩, hcalled⟩
        have hs' : (st'.deco d).s = ds := (hreg.decoStatic d).s ▸ hds
        have hl' : (false, k, slot, decl) ∈ slotDecoLeaves ctx.env (st'.deco d).results :=
          (hreg.decoStatic d).results ▸ hleaf
        have hsome := hei.cached.deco d (hei.decosLen ▸ hdL) hcalled k slot decl hl'
        rw [hs'] at hsome
        cases hv : aget (st'.scope ds).decoratedValues k with
        | none => rw [hv] at hsome; cases hsome
        | some v => trivial
      · split
        · trivial
        · split
          · trivial
          · split
            · trivial
            · exact nofun
          · rename_i pc ns hfp
            obtain ⟨pre, post, hsplit, hns, hne, _, _⟩ := findProviders_provs st k _ pc ns hfp
            have hnL : ∀ n ∈ ns, n < L := fun n hn => h.provLt (k := k) (hns ▸ hn)
            refine bind_sat (firstM_sat ns
              (I := fun done s => EI ctx.env L L' s ∧ RegFrame st s ∧ ∀ n ∈ done, (s.ctor n).called = true)
              (Q := fun o s => o = none → EI ctx.env L L' s ∧ RegFrame st s ∧ ∀ n ∈ ns, (s.ctor n).called = true)
              ⟨h, RegFrame.refl st, nofun⟩ ?_ (fun _ h _ => h)) ?_
            · intro done n rest e s1 ⟨hei, hreg, hdone⟩
              have hn := hnL n (mem_of_eq_append e)
              have hfl := (engine_flags ctx L L' fuel).1 n (s1.ctor n).origS hn s1 hei.vl
              have hrun := (sat_of_ne (I := fun s => EI ctx.env L L' s ∧ RegFrame st s ∧
                  ∀ m ∈ done, (s.ctor m).called = true) (ihC n _ s1 hn hei)
                ⟨ei_callCtor ctx L L' fuel n _ hn s1 hei, hreg.trans hfl.reg, fun m hm => hfl.ctorMono m (hdone m hm)⟩).and
                (callCtor_called ctx L L' fuel n _ hn s1 hei.vl)
              refine providerStep_sat hrun ?_ (fun _ _ _ _ => nofun) (fun _ _ _ _ => nofun) (fun _ _ _ h => h.1)
              rintro s ⟨⟨hei', hreg', hdone'⟩, hc⟩
              refine ⟨hei', hreg', fun m hm => ?_⟩
              rcases List.mem_append.mp hm with hm | hm
              · exact hdone' m hm
              · rw [List.mem_singleton.mp hm]; exact hc
            · intro early st' hq
              cases early with
              | some z => trivial
              | none =>
                obtain ⟨hei, hreg, hall⟩ := hq rfl
                cases hnsc : ns with
                | nil => exact absurd hnsc hne
                | cons n0 rest =>
                  have hn0 : n0 ∈ ns := by rw [hnsc]; simp
                  obtain ⟨hs0, hk0⟩ := h.wf.provPlain pc k n0 (by rw [← hns]; exact hn0) hk
                  have hk' : k ∈ ctorKeys st' n0 := by rw [ctorKeys_regFrame hreg]; exact hk0
                  have hsome := hei.cached.ctor n0 (hei.ctorsLen ▸ hnL n0 hn0) (hall n0 hn0) k hk'
                  rw [← (hreg.ctorStatic n0).s, hs0] at hsome
                  cases hv : aget (st'.scope pc).values k with
                  | none => rw [hv] at hsome; cases hsome
                  | some v => trivial
    · -- buildGroup
      intro k soft c st h
      refine ne_of_sat (buildGroup_inv (I := EI ctx.env L L') (fun _ _ _ => Fail.wrap_ne nofun) h ?_ ?_)
      · intro s _ d s1 h1 hd hns
        exact sat_of_ne (ihD d s s1 (h1.decoLt hd) h1) (ei_callDeco ctx L L' fuel d s (h1.decoLt hd) s1 h1 hns)
      · intro _ s _ n s3 s4 h3 hn h4
        exact sat_of_ne (ihC n _ s4 (h3.provLt hn) h4) (ei_callCtor ctx L L' fuel n _ (h3.provLt hn) s4 h4)
    · -- buildParam
      intro p c st hp h
      cases p with
      | single k opt =>
        rw [buildParam_succ]
        exact ihS k opt c st (hp (.single k) (by simp [leaves])) h
      | grouped ty k soft pg => rw [buildParam_succ]; exact ihG k soft c st h
      | object ty fs =>
        exact ne_of_sat (fields_inv h fun f hf s hs =>
          sat_of_ne (ihP f c s (paramWF_of_mem hp hf) hs) (ei_buildParam ctx L L' fuel f c s hs))
    · -- buildList
      intro ps c st hps h
      refine ne_of_sat (Q := fun _ => EI ctx.env L L') ?_
      rw [buildList_succ]
      exact mapM_inv h fun p hp s hs =>
        sat_of_ne (ihP p c s (paramWF_of_mem_list hps hp) hs) (ei_buildParam ctx L L' fuel p c s hs)

end Dig
