import DigModel.Graph
/-
  What the answers of the depth-first search of internal/graph mean.  `ok`: the search keeps `Inv` — the nodes visited
  and no longer on the path have all their successors among themselves, at strictly smaller values of a rank function —
  so at the end the rank decreases along every edge and no walk among the nodes closes (`isAcyclic_sound`).
  `cycle p`: `p` is a closed walk of the graph (`isAcyclic_cycle`).
-/
namespace Dfs

theorem step_stay (g rec p) : ∀ r v, (∀ s, r ≠ .ok s) → step g rec p r v = r := by
  intro r v h
  cases r with
  | ok s => exact absurd rfl (h s)
  | cycle p => rfl
  | oof => rfl

theorem foldl_step_stay (g rec p) (r : R) (hr : ∀ s, r ≠ .ok s) (vs : List Nat) : vs.foldl (step g rec p) r = r := by
  induction vs with
  | nil => rfl
  | cons v vs ih => rw [List.foldl_cons, step_stay g rec p r v hr]; exact ih

theorem loop_cons {g rec path} {s : List Nat} {v : Nat} {vs : List Nat} {r : R}
    (h : (v :: vs).foldl (step g rec path) (.ok s) = r) :
    (v ∉ s ∧ ∃ s', rec v s = .ok s' ∧ vs.foldl (step g rec path) (.ok s') = r) ∨
    (v ∉ s ∧ rec v s = r ∧ ∀ s', r ≠ .ok s') ∨
    (v ∈ s ∧ v ∈ path ∧ .cycle (cutFrom v path ++ [v]) = r) ∨
    (v ∈ s ∧ v ∉ path ∧ vs.foldl (step g rec path) (.ok s) = r) := by
  simp only [List.foldl_cons, step] at h
  by_cases hv : v ∈ s
  · rw [if_neg (not_not_intro hv)] at h
    by_cases hp : v ∈ path
    · rw [if_pos hp, foldl_step_stay _ _ _ (.cycle _) fun _ h => nomatch h] at h
      exact .inr (.inr (.inl ⟨hv, hp, h⟩))
    · rw [if_neg hp] at h
      exact .inr (.inr (.inr ⟨hv, hp, h⟩))
  · rw [if_pos hv] at h
    cases hr : rec v s with
    | ok s' => rw [hr] at h; exact .inl ⟨hv, s', rfl, h⟩
    | cycle p => rw [hr, foldl_step_stay _ _ _ (.cycle p) fun _ h => nomatch h] at h; exact .inr (.inl ⟨hv, h, h ▸ fun _ h => nomatch h⟩)
    | oof => rw [hr, foldl_step_stay _ _ _ .oof fun _ h => nomatch h] at h; exact .inr (.inl ⟨hv, h, h ▸ fun _ h => nomatch h⟩)

theorem loop_ok (g : Nat → List Nat) (rec : Nat → List Nat → R) (path : List Nat) (I : List Nat → Prop)
    (hrec : ∀ v s s', v ∉ s → I s → rec v s = .ok s' → (∀ x ∈ s, x ∈ s') ∧ v ∈ s' ∧ I s') :
    ∀ (vs : List Nat) s0 sf, I s0 → vs.foldl (step g rec path) (.ok s0) = .ok sf →
      (∀ x ∈ s0, x ∈ sf) ∧ I sf ∧ ∀ v ∈ vs, v ∈ sf ∧ (v ∈ s0 → v ∉ path) := by
  intro vs
  induction vs with
  | nil => intro s0 sf h0 h; cases h; exact ⟨fun _ h => h, h0, nofun⟩
  | cons v vs ih =>
    intro s0 sf h0 h
    rcases loop_cons h with ⟨hv, s1, e, h'⟩ | ⟨_, _, hn⟩ | ⟨_, _, e⟩ | ⟨hv, hp, h'⟩
    · obtain ⟨a1, a2, a3⟩ := hrec v s0 s1 hv h0 e
      obtain ⟨b1, b2, b3⟩ := ih s1 sf a3 h'
      refine ⟨fun x hx => b1 x (a1 x hx), b2, fun w hw => ?_⟩
      rcases List.mem_cons.mp hw with rfl | hw
      · exact ⟨b1 _ a2, fun h => absurd h hv⟩
      · exact ⟨(b3 w hw).1, fun h => (b3 w hw).2 (a1 w h)⟩
    · exact absurd rfl (hn sf)
    · cases e
    · obtain ⟨b1, b2, b3⟩ := ih s0 sf h0 h'
      refine ⟨b1, b2, fun w hw => ?_⟩
      rcases List.mem_cons.mp hw with rfl | hw
      · exact ⟨b1 _ hv, fun _ => hp⟩
      · exact b3 w hw

/-- black = visited and not on the current path; black nodes have black successors of smaller rank -/
def Inv (g : Nat → List Nat) (vis path : List Nat) : Prop :=
  (∀ x ∈ path, x ∈ vis) ∧
  ∃ rank : Nat → Nat, ∀ x, x ∈ vis → x ∉ path → ∀ y ∈ g x, y ∈ vis ∧ y ∉ path ∧ rank y < rank x

theorem Inv.enter {g vis path u} (hu : u ∉ vis) (h : Inv g vis path) : Inv g (u :: vis) (path ++ [u]) := by
  obtain ⟨hsub, rank, hr⟩ := h
  refine ⟨?_, rank, ?_⟩
  · intro x hx
    rcases List.mem_append.mp hx with hx | hx
    · exact List.mem_cons_of_mem _ (hsub x hx)
    · exact List.mem_singleton.mp hx ▸ List.mem_cons_self
  · intro x hx hxp y hy
    rw [List.mem_append, List.mem_singleton, not_or] at hxp ⊢
    obtain ⟨h1, h2, h3⟩ := hr x ((List.mem_cons.mp hx).resolve_left hxp.2) hxp.1 y hy
    exact ⟨List.mem_cons_of_mem _ h1, ⟨h2, fun hyu => hu (hyu ▸ h1)⟩, h3⟩

theorem exists_gt (f : Nat → Nat) (l : List Nat) : ∃ m, ∀ y ∈ l, f y < m := by
  induction l with
  | nil => exact ⟨0, nofun⟩
  | cons z l ih =>
    obtain ⟨m, hm⟩ := ih
    refine ⟨max m (f z + 1), fun y hy => ?_⟩
    rcases List.mem_cons.mp hy with rfl | hy
    · exact Nat.lt_of_lt_of_le (Nat.lt_succ_self _) (Nat.le_max_right _ _)
    · exact Nat.lt_of_lt_of_le (hm y hy) (Nat.le_max_left _ _)

/-- leaving `u` once all its successors are black: `u` becomes black, with a rank above all of its successors -/
theorem Inv.leave {g s path u} (h : Inv g s (path ++ [u])) (hs : ∀ y ∈ g u, y ∈ s ∧ y ∉ path ++ [u]) :
    Inv g s path := by
  obtain ⟨hsub, rank, hr⟩ := h
  obtain ⟨m, hm⟩ := exists_gt rank (g u)
  refine ⟨fun x hx => hsub x (List.mem_append_left _ hx), fun x => if x = u then m else rank x, ?_⟩
  intro x hx hxp y hy
  simp only [List.mem_append, List.mem_singleton, not_or] at hs hr
  by_cases hxu : x = u
  · subst hxu
    obtain ⟨h1, h2, h3⟩ := hs y hy
    exact ⟨h1, h2, by simp only [if_neg h3, if_true]; exact hm y hy⟩
  · obtain ⟨h1, ⟨h2, h3⟩, h4⟩ := hr x hx ⟨hxp, hxu⟩ y hy
    exact ⟨h1, h2, by simp only [if_neg hxu, if_neg h3]; exact h4⟩

theorem dfs_ok (g : Nat → List Nat) :
    ∀ fuel u vis path vis', u ∉ vis → Inv g vis path → dfs g fuel u vis path = .ok vis' →
      (∀ x ∈ vis, x ∈ vis') ∧ u ∈ vis' ∧ Inv g vis' path := by
  intro fuel
  induction fuel with
  | zero => intro u vis path vis' _ _ h; cases h
  | succ fuel ih =>
    intro u vis path vis' hu hinv h
    rw [dfs, if_neg hu] at h
    have hin := hinv.enter hu
    obtain ⟨h1, h2, h3⟩ := loop_ok g _ (path ++ [u]) (Inv g · (path ++ [u]))
      (fun v s s' => ih v s _ s') (g u) (u :: vis) vis' hin h
    exact ⟨fun x hx => h1 x (List.mem_cons_of_mem _ hx), h1 u List.mem_cons_self,
      h2.leave fun y hy => ⟨(h3 y hy).1, fun hp => (h3 y hy).2 (hin.1 y hp) hp⟩⟩

theorem isAcyclic_eq (g : Nat → List Nat) (n : Nat) :
    isAcyclic g n = (List.range n).foldl (step g (fun v vis => dfs g (n + 1) v vis []) []) (.ok []) := by
  unfold isAcyclic
  congr 1
  funext acc i
  cases acc with
  | ok vis => by_cases hi : i ∈ vis <;> simp [step, dfs, hi]
  | cycle p => rfl
  | oof => rfl

theorem isAcyclic_ok (g : Nat → List Nat) (n : Nat) (vis : List Nat) (h : isAcyclic g n = .ok vis) :
    ∃ rank : Nat → Nat, ∀ x, x < n → ∀ y ∈ g x, rank y < rank x := by
  rw [isAcyclic_eq] at h
  obtain ⟨_, ⟨_, rank, hr⟩, hall⟩ := loop_ok g _ [] (Inv g · []) (fun v s s' => dfs_ok g (n + 1) v s [] s')
    (List.range n) [] vis ⟨by simp, fun _ => 0, by simp⟩ h
  exact ⟨rank, fun x hx y hy => (hr x (hall x (List.mem_range.mpr hx)).1 (by simp) y hy).2.2⟩

def IsWalk (g : Nat → List Nat) : List Nat → Prop
  | [] => True
  | [_] => True
  | a :: b :: rest => b ∈ g a ∧ IsWalk g (b :: rest)

theorem walk_rank (g : Nat → List Nat) (n : Nat) (rank : Nat → Nat)
    (hr : ∀ x, x < n → ∀ y ∈ g x, rank y < rank x) :
    ∀ (l : List Nat) (a : Nat), (∀ x ∈ a :: l, x < n) → IsWalk g (a :: l) → l ≠ [] →
      rank ((a :: l).getLast (by simp)) < rank a := by
  intro l
  induction l with
  | nil => intro a _ _ h; exact absurd rfl h
  | cons b l ih =>
    intro a hn hw _
    have h1 := hr a (hn a List.mem_cons_self) b hw.1
    cases l with
    | nil => exact h1
    | cons c l =>
      rw [List.getLast_cons (by simp)]
      exact Nat.lt_trans (ih b (fun x hx => hn x (List.mem_cons_of_mem _ hx)) hw.2 (by simp)) h1

theorem isAcyclic_sound (g : Nat → List Nat) (n : Nat) (vis : List Nat) (h : isAcyclic g n = .ok vis)
    (a : Nat) (l : List Nat) (hl : l ≠ []) (hn : ∀ x ∈ a :: l, x < n) (hw : IsWalk g (a :: l)) :
    (a :: l).getLast (by simp) ≠ a := by
  obtain ⟨rank, hr⟩ := isAcyclic_ok g n vis h
  have := walk_rank g n rank hr l a hn hw hl
  intro heq; rw [heq] at this; exact Nat.lt_irrefl _ this

#print axioms isAcyclic_sound

theorem isWalk_suffix (g : Nat → List Nat) : ∀ (pre l : List Nat), IsWalk g (pre ++ l) → IsWalk g l := by
  intro pre
  induction pre with
  | nil => exact fun l h => h
  | cons a pre ih =>
    intro l h
    cases pre with
    | nil =>
      cases l with
      | nil => trivial
      | cons b l => exact h.2
    | cons b pre => exact ih l h.2

theorem isWalk_snoc (g : Nat → List Nat) : ∀ (l : List Nat) (u v : Nat),
    IsWalk g (l ++ [u]) → v ∈ g u → IsWalk g (l ++ [u] ++ [v]) := by
  intro l
  induction l with
  | nil => intro u v _ hv; exact ⟨hv, trivial⟩
  | cons a l ih =>
    intro u v h hv
    cases l with
    | nil => exact ⟨h.1, hv, trivial⟩
    | cons b l => exact ⟨h.1, ih u v h.2 hv⟩

theorem isWalk_getElem? {g : Nat → List Nat} {p : List Nat} : ∀ {j u v : Nat},
    IsWalk g p → p[j]? = some u → p[j + 1]? = some v → v ∈ g u := by
  induction p with
  | nil => intro j u v _ hu; cases hu
  | cons a rest ih =>
    intro j u v hw hu hv
    cases rest with
    | nil => cases j <;> cases hv
    | cons b rest =>
      cases j with
      | zero => cases hu; cases hv; exact hw.1
      | succ j => exact ih hw.2 hu hv

theorem cutFrom_of_not_mem (v : Nat) (l : List Nat) (h : v ∉ l) : cutFrom v l = [] := by
  induction l with
  | nil => rfl
  | cons x xs ih =>
    simp [cutFrom, ih fun h' => h (List.mem_cons_of_mem _ h'), show x ≠ v from fun e => h (e ▸ List.mem_cons_self)]

theorem cutFrom_spec (v : Nat) : ∀ (l : List Nat), v ∈ l →
    ∃ pre suf, l = pre ++ v :: suf ∧ cutFrom v l = v :: suf := by
  intro l
  induction l with
  | nil => nofun
  | cons x xs ih =>
    intro h
    by_cases hv : v ∈ xs
    · obtain ⟨pre, suf, h1, h2⟩ := ih hv
      exact ⟨x :: pre, suf, by rw [h1]; rfl, by simp [cutFrom, h2]⟩
    · obtain rfl : v = x := (List.mem_cons.mp h).resolve_right hv
      exact ⟨[], xs, rfl, by simp [cutFrom, cutFrom_of_not_mem v xs hv]⟩

def IsClosedWalk (g : Nat → List Nat) (p : List Nat) : Prop :=
  IsWalk g p ∧ 2 ≤ p.length ∧ p.head? = p.getLast?

theorem loop_cycle (g : Nat → List Nat) (rec : Nat → List Nat → R) (path p : List Nat) :
    ∀ (vs : List Nat) s0, vs.foldl (step g rec path) (.ok s0) = .cycle p →
    ∃ v ∈ vs, (∃ s, rec v s = .cycle p) ∨ (v ∈ path ∧ cutFrom v path ++ [v] = p) := by
  intro vs
  induction vs with
  | nil => nofun
  | cons v vs ih =>
    intro s0 h
    rcases loop_cons h with ⟨_, s1, _, h'⟩ | ⟨_, e, _⟩ | ⟨_, hp, e⟩ | ⟨_, _, h'⟩
    · obtain ⟨w, hw, hc⟩ := ih s1 h'
      exact ⟨w, List.mem_cons_of_mem _ hw, hc⟩
    · exact ⟨v, List.mem_cons_self, .inl ⟨s0, e⟩⟩
    · exact ⟨v, List.mem_cons_self, .inr ⟨hp, R.cycle.inj e⟩⟩
    · obtain ⟨w, hw, hc⟩ := ih s0 h'
      exact ⟨w, List.mem_cons_of_mem _ hw, hc⟩

theorem dfs_cycle (g : Nat → List Nat) :
    ∀ fuel u vis path p, IsWalk g (path ++ [u]) → dfs g fuel u vis path = .cycle p → IsClosedWalk g p := by
  intro fuel
  induction fuel with
  | zero => intro u vis path p _ h; cases h
  | succ fuel ih =>
    intro u vis path p hw h
    rw [dfs] at h
    split at h
    · cases h
    · obtain ⟨v, hv, ⟨s, hs⟩ | ⟨hvp, rfl⟩⟩ := loop_cycle g _ _ p (g u) (u :: vis) h
      · exact ih v s (path ++ [u]) p (isWalk_snoc g path u v hw hv) hs
      · obtain ⟨pre, suf, h1, h2⟩ := cutFrom_spec v (path ++ [u]) hvp
        have hwalk := isWalk_snoc g path u v hw hv
        rw [h1, List.append_assoc] at hwalk
        rw [h2]
        exact ⟨isWalk_suffix g pre _ hwalk, by simp, by rw [List.getLast?_append]; rfl⟩

theorem isAcyclic_cycle (g : Nat → List Nat) (n : Nat) (p : List Nat) (h : isAcyclic g n = .cycle p) :
    IsClosedWalk g p := by
  rw [isAcyclic_eq] at h
  obtain ⟨v, _, ⟨s, hs⟩ | ⟨hp, _⟩⟩ := loop_cycle g _ [] p (List.range n) [] h
  · exact dfs_cycle g (n + 1) v s [] p trivial hs
  · cases hp

#print axioms isAcyclic_cycle
end Dfs
