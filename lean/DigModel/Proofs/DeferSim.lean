import DigModel.Proofs.SameSim
/-
  DeferAcyclicVerification changes no outcome on histories in which the eager run never reports a cycle:
  a step-by-step simulation of the eager run by the deferring run, on containers equal up to the
  `isVerifiedAcyclic` flags.
-/
namespace Dig

theorem invoke_sim {a b : St} (hab : EqButVerified a b) (hinv : EagerInv a) {ctx ctx' : Ctx} (hc : CtxSame ctx ctx')
    (fn : Fn) (s : Nat) (hs : s < a.scopes.length) (info : Bool) :
    (apiInvoke ctx' fn b s info).2 = (apiInvoke ctx fn a s info).2 ∧
    EqButVerified (apiInvoke ctx fn a s info).1 (apiInvoke ctx' fn b s info).1 := by
  have hea := hinv.ea.parseParams hinv.gt hinv.pg hinv.ob ctx.env s fn
  refine invoke_simV hab hc fn s hs info (VA.of_ea hea) ?_
  rw [eqV_vset hab, vset_parseParams]
  exact VA.of_ea (hea.eqV (vset_eqV _ _))

theorem provideRegister_ctx {ctx ctx' : Ctx} (hc : CtxSame ctx ctx') (fn : Fn) (st : St) (i s : Nat) (o : ProvideOpts) :
    provideRegister ctx' fn st i s o = provideRegister ctx fn st i s o := by
  unfold provideRegister
  simp only [hc.env]

/-- the checks read nothing a loop writes -/
theorem verifyScopes_eager_ok {cfg₁ cfg₂ : Cfg} (hd : cfg₁.deferAcyclic = false) (l : List Nat) {a b : St}
    (hab : EqButVerified a b) (hok : (Dig.verifyScopes cfg₁ l a).1 = .ok ()) :
    (Dig.verifyScopes cfg₂ l b).1 = .ok () ∧ EqButVerified (Dig.verifyScopes cfg₁ l a).2 (Dig.verifyScopes cfg₂ l b).2 := by
  have hev : EqButVerified (Dig.verifyScopes cfg₁ l a).2 (Dig.verifyScopes cfg₂ l b).2 :=
    ((verifyScopes_eqV cfg₁ l a).symm'.trans' hab).trans' (verifyScopes_eqV cfg₂ l b)
  refine ⟨?_, hev⟩
  cases hr : (Dig.verifyScopes cfg₂ l b).1 with
  | ok u => rfl
  | error ec =>
    obtain ⟨hmem, hchk, hne⟩ := verifyScopes_err_check cfg₂ l b ec.1 ec.2 hr
    rw [checkAcyclic_eqV hev, verifyScopes_ok_acyclic cfg₁ hd l a hok ec.1 hmem] at hchk
    exact absurd hchk.symm hne

theorem provide_sim {a b : St} (hab : EqButVerified a b) (hinv : EagerInv a) {ctx ctx' : Ctx} (hc : CtxSame ctx ctx')
    (hd : ctx.cfg.deferAcyclic = false) (fn : Fn) (i s : Nat) (o : ProvideOpts)
    (hnc : ∀ e, (apiProvide ctx fn a i s o).2.v = .err e → e.isCycleDetected = false) :
    (apiProvide ctx' fn b i s o).2 = (apiProvide ctx fn a i s o).2 ∧
    EqButVerified (apiProvide ctx fn a i s o).1 (apiProvide ctx' fn b i s o).1 := by
  obtain ⟨g, rfl⟩ := eqV_exists_vset hab
  rw [apiProvide_eq, apiProvide_eq] at *
  unfold apiProvide' at *
  rw [provideRegister_ctx hc, vset_provideRegister]
  cases hreg : provideRegister ctx fn a i s o with
  | error r => simp only; exact ⟨trivial, vset_eqV g _⟩
  | ok t =>
    obtain ⟨target, params, results, n, w⟩ := t
    rw [hreg] at hnc
    simp only at hnc ⊢
    unfold provideVerify at hnc ⊢
    simp only [vset_subscopes]
    have herr := verifyScopes_err_cycle (hinv.ob.register hreg) ctx.cfg (a.subscopes target)
    have hsim := verifyScopes_eager_ok (cfg₂ := ctx'.cfg) hd (a.subscopes target) (vset_eqV g w)
    cases hvs : Dig.verifyScopes ctx.cfg (a.subscopes target) w with
    | mk r5 w5 =>
      rw [hvs] at hnc herr hsim
      simp only at hnc herr hsim
      cases r5 with
      | error ec =>
        -- the eager loop fails only by naming a cycle
        obtain ⟨sc, r⟩ := ec
        obtain ⟨p, rfl⟩ := herr sc r rfl
        have := hnc _ rfl
        simp [DErr.isCycleDetected, DErr.chain] at this
      | ok u =>
        obtain ⟨h1, h2⟩ := hsim rfl
        cases hvs' : Dig.verifyScopes ctx'.cfg (a.subscopes target) (vset g w) with
        | mk r6 w6 =>
          rw [hvs'] at h1 h2
          simp only at h1 h2
          subst h1
          exact ⟨rfl, eqV_verifyRel.nodes h2 target n⟩

theorem apiDecorate_ctx {ctx ctx' : Ctx} (hc : CtxSame ctx ctx') (fn : Fn) (st : St) (i s : Nat) (cb info : Bool) :
    apiDecorate ctx' fn st i s cb info = apiDecorate ctx fn st i s cb info := by
  unfold apiDecorate
  simp only [hc.env]

def NoCyc (r : OpRes) : Prop := ∀ e, r.v = .err e → e.isCycleDetected = false

theorem EagerInv.resetLog {st : St} (h : EagerInv st) : EagerInv { st with log := [] } :=
  ⟨h.gt.resetLog, h.pg.resetLog, h.ob.resetLog, h.ea.resetLog⟩

theorem step_sim {a b : St} (hab : EqButVerified a b) (hinv : EagerInv a) {ctx ctx' : Ctx} (hc : CtxSame ctx ctx')
    (hd : ctx.cfg.deferAcyclic = false) (fns : List Fn) (i : Nat) (op : Op) (hnc : NoCyc (Dig.step ctx fns a i op).2) :
    (Dig.step ctx' fns b i op).2 = (Dig.step ctx fns a i op).2 ∧
    EqButVerified (Dig.step ctx fns a i op).1 (Dig.step ctx' fns b i op).1 := by
  have hab0 := eqV_resetLog hab
  have hinv0 := hinv.resetLog
  have hlen := hab.scopesLen
  revert hnc
  refine step_rel fns hlen i op (P := fun x y => NoCyc x.2 → y.2 = x.2 ∧ EqButVerified x.1 y.1)
    (fun p hp _ => ⟨rfl, eqV_apiScope hab0 p (hlen ▸ hp)⟩) (fun s o fn _ hnc => ?_) (fun s cb info fn _ _ => ?_)
    (fun s info fn hs _ => invoke_sim hab0 hinv0 hc fn s (hlen ▸ hs) info) fun _ _ => ⟨rfl, hab0⟩
  · obtain ⟨h1, h2⟩ := provide_sim hab0 hinv0 hc hd fn i s o hnc
    exact ⟨congrArg RegRes.toOpRes h1, h2⟩
  · rw [apiDecorate_ctx hc]
    obtain ⟨h1, h2⟩ := decorate_simV hab0 ctx fn i s cb info
    exact ⟨congrArg RegRes.toOpRes h1, h2⟩

theorem runOps_sim {ctx ctx' : Ctx} (hc : CtxSame ctx ctx') (hd : ctx.cfg.deferAcyclic = false) (fns : List Fn) :
    ∀ (ops : List Op) (i : Nat) (a b : St) (acc : List OpRes), EqButVerified a b → EagerInv a →
      (∀ r ∈ (Dig.runOps ctx fns ops i a acc).2, NoCyc r) →
      (Dig.runOps ctx' fns ops i b acc).2 = (Dig.runOps ctx fns ops i a acc).2 := by
  intro ops i a b acc hab hinv hnc
  rw [runOps_acc ctx fns ops i a] at hnc
  obtain ⟨-, hl, hz⟩ := runOps_rel_while (ctx₁ := ctx) (ctx₂ := ctx') (fns₁ := fns) (fns₂ := fns)
    (R := fun a b => EqButVerified a b ∧ EagerInv a) (Q := fun x y => y = x) (C := NoCyc)
    (fun a b i op h hn =>
      have hs := step_sim h.1 h.2 hc hd fns i op hn
      ⟨⟨hs.2, h.2.step ctx hd fns i op⟩, hs.1⟩) ops i a b ⟨hab, hinv⟩ fun r hr => hnc r (List.mem_append_right _ hr)
  rw [runOps_acc ctx' fns ops i b, runOps_acc ctx fns ops i a, eq_of_zip_eq hl hz]

theorem defer_changes_nothing (p : Program) (hd : p.cfg.deferAcyclic = false)
    (hnc : ∀ r ∈ (runProgram p).2, NoCyc r) :
    (runProgram { p with cfg := { p.cfg with deferAcyclic := true } }).2 = (runProgram p).2 := by
  unfold runProgram
  have hc : CtxSame p.ctx ({ p with cfg := { p.cfg with deferAcyclic := true } } : Program).ctx :=
    ⟨rfl, rfl, rfl, rfl, rfl, rfl⟩
  exact runOps_sim hc hd p.fns p.ops 0 {} {} [] (eqV_refl _) EagerInv.init hnc

end Dig
