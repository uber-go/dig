import DigModel.Api
import DigModel.Proofs.Body
/-
  Value-typed error results (`Ctx.forced`): a function one of whose declared results is of a value type that
  implements `error` never completes successfully — whatever its script says.
-/
namespace Dig

theorem isValErrT_isErrorT (env : TyEnv) (t : GoT) (h : isValErrT env t = true) : isErrorT env t = true := by
  cases t with
  | univ i =>
    simp only [isValErrT] at h
    simp only [isErrorT]
    cases hi : env.info i with
    | none => rw [hi] at h; cases h
    | some ti => rw [hi] at h; simp only [Bool.and_eq_true] at h; exact h.1
  | ptr _ _ => cases h
  | strct _ _ => cases h

theorem forcedOf_id (env : TyEnv) (fn : Fn) (e : Nat × Nat × Bool) (h : forcedOf env fn = some e) : e.1 = fn.id := by
  unfold forcedOf at h
  simp only at h
  split at h
  · cases h; rfl
  · split at h
    · cases h; rfl
    · cases h

theorem forcedOf_errOuts (env : TyEnv) (fn : Fn) (e : Nat × Nat × Bool) (h : forcedOf env fn = some e) :
    (errOuts env fn).isEmpty = false := by
  unfold forcedOf at h
  simp only at h
  split at h
  · rename_i hc
    simp only [Bool.and_eq_true, bne_iff_ne, ne_eq] at hc
    obtain ⟨hv, hl⟩ := hc
    have hmem : fn.outs.length - 1 ∈ errOuts env fn := by
      unfold errOuts
      simp only [List.mem_filter, List.mem_range]
      exact ⟨by omega, isValErrT_isErrorT env _ hv⟩
    cases he : errOuts env fn with
    | nil => rw [he] at hmem; cases hmem
    | cons a l => rfl
  · split at h
    · rename_i j hj
      cases he : errOuts env fn with
      | nil => rw [he] at hj; simp at hj
      | cons a l => rfl
    · cases h

theorem find_forced (env : TyEnv) (fn : Fn) (e : Nat × Nat × Bool) (h : forcedOf env fn = some e) :
    ∀ (fns : List Fn), fn ∈ fns → (∀ g ∈ fns, g.id = fn.id → g = fn) →
      (fns.filterMap (forcedOf env)).find? (·.1 == fn.id) = some e
  | [], hm, _ => by cases hm
  | g :: rest, hm, hu => by
    by_cases hg : g = fn
    · subst hg
      simp only [List.filterMap_cons, h, List.find?_cons]
      rw [forcedOf_id env g e h]; simp
    · have hm' : fn ∈ rest := by
        rcases List.mem_cons.mp hm with h1 | h1
        · exact absurd h1.symm hg
        · exact h1
      have ih := find_forced env fn e h rest hm' (fun x hx => hu x (List.mem_cons_of_mem _ hx))
      cases hf : forcedOf env g with
      | none => simp only [List.filterMap_cons, hf]; exact ih
      | some e' =>
        simp only [List.filterMap_cons, hf, List.find?_cons]
        have hne : (e'.1 == fn.id) = false := by
          rw [forcedOf_id env g e' hf]
          simp only [beq_eq_false_iff_ne, ne_eq]
          intro hid
          exact hg (hu g (by simp) hid)
        rw [hne]; exact ih

theorem beh_forced (ctx : Ctx) (f : Nat) (e : Nat × Nat × Bool) (h : ctx.forced.find? (·.1 == f) = some e) (x : Nat) :
    (ctx.beh f x).k ≠ .ok := by
  unfold Ctx.beh
  simp only [h]
  split
  · rename_i hp; simp only [beq_iff_eq] at hp; rw [hp]; intro hc; cases hc
  · split
    · rename_i hp; simp only [Bool.and_eq_true, beq_iff_eq] at hp; rw [hp.1]; intro hc; cases hc
    · intro hc; cases hc

/-- **a function with a value-typed error result never completes successfully**: its body never returns `ok` and its
    exit event never says `ok` -/
theorem valErr_never_ok (p : Program) (fn : Fn) (hmem : fn ∈ p.fns) (huniq : ∀ g ∈ p.fns, g.id = fn.id → g = fn)
    (hv : (forcedOf p.types fn).isSome = true) (st : St) :
    (∀ x len, bodyRes p.ctx fn st ≠ .ok x len) ∧ exitKind p.ctx fn (p.ctx.beh fn.id (st.execCount fn.id)) ≠ .ok := by
  obtain ⟨e, he⟩ := Option.isSome_iff_exists.mp hv
  have hfind : p.ctx.forced.find? (·.1 == fn.id) = some e := find_forced p.types fn e he p.fns hmem huniq
  have hk := beh_forced p.ctx fn.id e hfind (st.execCount fn.id)
  have heo : (errOuts p.ctx.env fn).isEmpty = false := forcedOf_errOuts p.types fn e he
  have hexit : exitKind p.ctx fn (p.ctx.beh fn.id (st.execCount fn.id)) ≠ .ok := by
    unfold exitKind
    cases hb : (p.ctx.beh fn.id (st.execCount fn.id)).k with
    | ok => exact absurd hb hk
    | err => simp [heo]
    | panic => simp
  exact ⟨fun x len h => hexit ((bodyRes_ok_iff p.ctx fn st).1 ⟨x, len, h⟩), hexit⟩

theorem valErr_not_commits (p : Program) (fn : Fn) (hmem : fn ∈ p.fns) (huniq : ∀ g ∈ p.fns, g.id = fn.id → g = fn)
    (hv : (forcedOf p.types fn).isSome = true) (hnd : p.cfg.dry = false) (who : Who) (args : List Val) (st : St) :
    (callBody p.ctx who fn args st).1.commits = false := by
  rw [callBody_spec p.ctx hnd]
  cases hb : bodyRes p.ctx fn st with
  | ok x len => exact absurd hb ((valErr_never_ok p fn hmem huniq hv st).1 x len)
  | dry => exact absurd hb (bodyRes_ne_dry p.ctx fn st)
  | err => rfl
  | panic => rfl

theorem ctorTail_not_commits (ctx : Ctx) (n : Nat) (node : CtorNode) (args : List Val) (st : St)
    (h : (callBody ctx (.ctor n) node.fn args st).1.commits = false) :
    (ctorTail ctx n node args st).2.ctors = st.ctors ∧ (ctorTail ctx n node args st).2.scopes = st.scopes ∧
    ∃ e, (ctorTail ctx n node args st).1 = .error e := by
  have hf := callBody_fields ctx (.ctor n) node.fn args st
  unfold ctorTail
  simp only [(runCallback_fields _ _ _ _ _ _).1, (runCallback_fields _ _ _ _ _ _).2.1]
  generalize callBody ctx (.ctor n) node.fn args st = rb at h hf
  rcases rb with ⟨r, s⟩
  cases r with
  | ok => cases h
  | dry => cases h
  | err => exact ⟨hf.2.1, hf.1, _, rfl⟩
  | panic => exact ⟨hf.2.1, hf.1, by simp only [ctorOutcome]; split <;> exact ⟨_, rfl⟩⟩

theorem decoTail_not_commits (ctx : Ctx) (d : Nat) (node : DecoNode) (args : List Val) (st : St)
    (h : (callBody ctx (.deco d) node.fn args st).1.commits = false) :
    (decoTail ctx d node args st).2.decos = st.decos ∧ (decoTail ctx d node args st).2.scopes = st.scopes ∧
    ∃ e, (decoTail ctx d node args st).1 = .error e := by
  have hf := callBody_fields ctx (.deco d) node.fn args st
  unfold decoTail
  simp only [(runCallback_fields _ _ _ _ _ _).1, (runCallback_fields _ _ _ _ _ _).2.2.1]
  generalize callBody ctx (.deco d) node.fn args st = rb at h hf
  rcases rb with ⟨r, s⟩
  cases r with
  | ok => cases h
  | dry => cases h
  | err => exact ⟨hf.2.2.1, hf.1, _, rfl⟩
  | panic => exact ⟨hf.2.2.1, hf.1, by simp only [decoOutcome]; split <;> exact ⟨_, rfl⟩⟩

/-- a constructor whose function has a value-typed error result is never marked as called, and writes to no cache:
    running it changes the constructor table and the scopes not at all -/
theorem valErr_ctorTail_writes_nothing (p : Program) (fn : Fn) (hmem : fn ∈ p.fns)
    (huniq : ∀ g ∈ p.fns, g.id = fn.id → g = fn) (hv : (forcedOf p.types fn).isSome = true) (hnd : p.cfg.dry = false)
    (n : Nat) (node : CtorNode) (hfn : node.fn = fn) (args : List Val) (st : St) :
    (ctorTail p.ctx n node args st).2.ctors = st.ctors ∧ (ctorTail p.ctx n node args st).2.scopes = st.scopes ∧
    ∃ e, (ctorTail p.ctx n node args st).1 = .error e :=
  ctorTail_not_commits p.ctx n node args st (hfn ▸ valErr_not_commits p fn hmem huniq hv hnd (.ctor n) args st)

/-- likewise a decorator whose function has a value-typed error result always fails, is never marked as called and
    writes no decorated value -/
theorem valErr_decoTail_writes_nothing (p : Program) (fn : Fn) (hmem : fn ∈ p.fns)
    (huniq : ∀ g ∈ p.fns, g.id = fn.id → g = fn) (hv : (forcedOf p.types fn).isSome = true) (hnd : p.cfg.dry = false)
    (d : Nat) (node : DecoNode) (hfn : node.fn = fn) (args : List Val) (st : St) :
    (decoTail p.ctx d node args st).2.decos = st.decos ∧ (decoTail p.ctx d node args st).2.scopes = st.scopes ∧
    ∃ e, (decoTail p.ctx d node args st).1 = .error e :=
  decoTail_not_commits p.ctx d node args st (hfn ▸ valErr_not_commits p fn hmem huniq hv hnd (.deco d) args st)

end Dig
