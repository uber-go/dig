import DigModel.Proofs.DecoHide
import DigModel.Proofs.VSetApi
import DigModel.Proofs.ParseState
/-
  Provide neither reads nor writes what Decorate registers: it commutes with any replacement of the decorator tables
  and of the list of decorator nodes (`dtr`).  Hence a Provide and an adjacent Decorate whose function has no
  value-group parameter (its parse adds no graph node) can be swapped: the same two verdicts, the same two Info
  structs, the same container.
-/
namespace Dig

def dtr (T : Nat → List (Key × Nat)) (ds : List DecoNode) (st : St) : St := { dset T st with decos := ds }

section
variable (T : Nat → List (Key × Nat)) (ds : List DecoNode)

@[simp] theorem dtr_ctors (st : St) : (dtr T ds st).ctors = st.ctors := rfl
@[simp] theorem dtr_pgs (st : St) : (dtr T ds st).pgs = st.pgs := rfl
theorem decorators_regBlind : RegBlind fun j x => { x with decorators := T j } :=
  ⟨fun _ _ => rfl, fun _ _ => rfl, fun _ _ => rfl, fun _ _ _ => rfl, fun _ _ _ => rfl, fun _ _ _ => rfl⟩

theorem dtr_len (st : St) : (dtr T ds st).scopes.length = st.scopes.length := dset_len T st

theorem dtr_read {α : Type} (r : ScopeSt → α) (hr : ∀ x t, r { x with decorators := t } = r x) (st : St) (j : Nat) :
    r ((dtr T ds st).scope j) = r (st.scope j) :=
  remap_read (fun j x => { x with decorators := T j }) (fun _ => ds) r (fun _ x => hr x _) st j

theorem dtr_modScope (st : St) (s : Nat) (f : ScopeSt → ScopeSt)
    (hf : ∀ x t, f { x with decorators := t } = { f x with decorators := t }) :
    (dtr T ds st).modScope s f = dtr T ds (st.modScope s f) :=
  remap_modScope (fun j x => { x with decorators := T j }) (fun _ => ds) st s f fun x => hf x _

theorem dtr_subscopes (st : St) (s : Nat) : (dtr T ds st).subscopes s = st.subscopes s :=
  remap_subscopes (fun _ => ds) (decorators_regBlind T) st s

theorem dtr_rollbackProvide (st0 w : St) (target : Nat) (scopes : List Nat) :
    rollbackProvide (dtr T ds st0) (dtr T ds w) target scopes = dtr T ds (rollbackProvide st0 w target scopes) :=
  remap_rollbackProvide (fun _ => ds) (decorators_regBlind T) st0 w target scopes

theorem graphSame_dtr (st : St) : GraphSame st (dtr T ds st) :=
  ⟨rfl, rfl, (dtr_len T ds st).symm, fun j =>
    ⟨(dtr_read T ds (·.parent) (fun _ _ => rfl) st j).symm, (dtr_read T ds (·.providers) (fun _ _ => rfl) st j).symm,
      (dtr_read T ds (·.gh) (fun _ _ => rfl) st j).symm⟩⟩

theorem dtr_verifyRel : VerifyRel fun a b => b = dtr T ds a where
  graph h := by subst h; exact graphSame_dtr T ds _
  subscopes h s := by subst h; exact (dtr_subscopes T ds _ s).symm
  flag h sc v := by subst h; exact dtr_modScope T ds _ sc _ fun _ _ => rfl
  nodes h sc n := by subst h; exact dtr_modScope T ds _ sc _ fun _ _ => rfl
  rollback h hw t l := by subst h; subst hw; exact dtr_rollbackProvide T ds _ _ t l

theorem dtr_apiProvide (ctx : Ctx) (fn : Fn) (st : St) (i s : Nat) (o : ProvideOpts) :
    apiProvide ctx fn (dtr T ds st) i s o =
      (dtr T ds (apiProvide ctx fn st i s o).1, (apiProvide ctx fn st i s o).2) := by
  obtain ⟨h1, h2⟩ := apiProvide_rel (dtr_verifyRel T ds) (ctx₁ := ctx) (ctx₂ := ctx) rfl fn i s o rfl
    (remap_regStage (Rel := fun a b => b = dtr T ds a) (fun _ => ds) (decorators_regBlind T) (fun _ => rfl) ctx fn st i s o)
  exact Prod.ext h1 h2.symm

end

theorem dtr_of_modScope (x : St) (ds : List DecoNode) (s : Nat) (g : List (Key × Nat) → List (Key × Nat)) :
    ({ x with decos := ds } : St).modScope s (fun sc => { sc with decorators := g sc.decorators }) =
      dtr (fun j => if j = s then g (x.scope j).decorators else (x.scope j).decorators) ds x := by
  unfold dtr dset St.modScope
  simp only
  congr 1
  apply List.ext_getElem?
  intro j
  simp only [List.getElem?_modify, List.getElem?_mapIdx]
  cases hx : x.scopes[j]? with
  | none => rfl
  | some sc =>
    have hsc := (scope_of_getElem? hx).2
    by_cases h : s = j
    · subst h
      simp only [Option.map_some, if_true, hsc]
      rfl
    · have h' : ¬ j = s := fun e => h e.symm
      simp only [Option.map_some, h, if_false, h', hsc]
      rfl

theorem apiProvide_len (ctx : Ctx) (fn : Fn) (st : St) (i s : Nat) (o : ProvideOpts) :
    (apiProvide ctx fn st i s o).1.scopes.length = st.scopes.length := by
  rcases apiProvide_work ctx fn st i s o with he | ⟨target, w, hw, hr | ⟨n, hr⟩⟩
  · exact he.scopesLen.symm
  · rw [hr]; exact hw.len
  · rw [hr]; simp [St.modScope]; exact hw.len

theorem apiDecorate_decide (ctx : Ctx) (fn : Fn) (x : St) (i s : Nat) (cb info : Bool) (hnf : fn.nonfunc = none)
    (r : Except DErr (List Param)) (hD : parseParams ctx.env x s fn = (r, x)) :
    apiDecorate ctx fn x i s cb info =
      match decoDecide ctx fn i s cb info r (x.scope s).decorators with
      | .error e => (x, { v := .err e })
      | .ok (node, keys, res) =>
        (({ x with decos := x.decos ++ [node] } : St).modScope s
          (fun sc => { sc with decorators := keys.foldl (fun m k => aset m k x.decos.length) sc.decorators }), res) :=
  apiDecorate_eq ctx fn x i s cb info hnf r x hD

theorem provide_decorate_swap (ctx : Ctx) (fP fD : Fn) (st : St) (iP iD sP sD : Nat) (o : ProvideOpts) (cb info : Bool)
    (r : Except DErr (List Param)) (hD : ∀ x, parseParams ctx.env x sD fD = (r, x)) :
    (apiDecorate ctx fD (apiProvide ctx fP st iP sP o).1 iD sD cb info).1 =
      (apiProvide ctx fP (apiDecorate ctx fD st iD sD cb info).1 iP sP o).1 ∧
    (apiProvide ctx fP st iP sP o).2 = (apiProvide ctx fP (apiDecorate ctx fD st iD sD cb info).1 iP sP o).2 ∧
    (apiDecorate ctx fD (apiProvide ctx fP st iP sP o).1 iD sD cb info).2 = (apiDecorate ctx fD st iD sD cb info).2 := by
  cases hnf : fD.nonfunc with
  | some v =>
    rw [apiDecorate_nonfunc ctx fD _ iD sD cb info hnf, apiDecorate_nonfunc ctx fD _ iD sD cb info hnf]
    exact ⟨rfl, rfl, rfl⟩
  | none =>
    obtain ⟨hdecos, htbl⟩ := apiProvide_decos ctx fP st iP sP o
    rw [apiDecorate_decide ctx fD _ iD sD cb info hnf r (hD _), apiDecorate_decide ctx fD st iD sD cb info hnf r (hD _),
      htbl sD, hdecos]
    cases decoDecide ctx fD iD sD cb info r (st.scope sD).decorators with
    | error e => exact ⟨rfl, rfl, rfl⟩
    | ok x =>
      obtain ⟨node, keys, res⟩ := x
      simp only
      have h1 := dtr_of_modScope st (st.decos ++ [node]) sD (fun t => keys.foldl (fun m k => aset m k st.decos.length) t)
      have h2 := dtr_of_modScope (apiProvide ctx fP st iP sP o).1 (st.decos ++ [node]) sD
        (fun t => keys.foldl (fun m k => aset m k st.decos.length) t)
      rw [h1, dtr_apiProvide, h2]
      refine ⟨?_, rfl, trivial⟩
      simp only
      congr 1
      funext j
      rw [htbl j]

theorem dtr_apiScope (T : Nat → List (Key × Nat)) (ds : List DecoNode) (st : St) (parent : Nat)
    (hT : T st.scopes.length = []) : apiScope (dtr T ds st) parent = dtr T ds (apiScope st parent) :=
  remap_apiScope (fun _ => ds) (decorators_regBlind T) st parent fun l => by simp only [hT]
theorem apiScope_decos (st : St) (parent : Nat) :
    (apiScope st parent).decos = st.decos ∧ ∀ j, ((apiScope st parent).scope j).decorators = (st.scope j).decorators :=
  ⟨(apiScope_shape st parent).1.decos, apiScope_scope_keep (·.decorators) st parent (fun _ _ => rfl) rfl⟩

theorem scope_decorate_swap (ctx : Ctx) (fD : Fn) (st : St) (parent iD sD : Nat) (cb info : Bool) (hsD : sD < st.scopes.length)
    (r : Except DErr (List Param)) (hD : ∀ x, parseParams ctx.env x sD fD = (r, x)) :
    (apiDecorate ctx fD (apiScope st parent) iD sD cb info).1 = apiScope (apiDecorate ctx fD st iD sD cb info).1 parent ∧
    (apiDecorate ctx fD (apiScope st parent) iD sD cb info).2 = (apiDecorate ctx fD st iD sD cb info).2 := by
  cases hnf : fD.nonfunc with
  | some v =>
    rw [apiDecorate_nonfunc ctx fD _ iD sD cb info hnf, apiDecorate_nonfunc ctx fD _ iD sD cb info hnf]
    exact ⟨rfl, rfl⟩
  | none =>
    obtain ⟨hdecos, htbl⟩ := apiScope_decos st parent
    rw [apiDecorate_decide ctx fD _ iD sD cb info hnf r (hD _),
      apiDecorate_decide ctx fD st iD sD cb info hnf r (hD _), htbl sD, hdecos]
    cases decoDecide ctx fD iD sD cb info r (st.scope sD).decorators with
    | error e => exact ⟨rfl, rfl⟩
    | ok x =>
      obtain ⟨node, keys, res⟩ := x
      simp only
      have h1 := dtr_of_modScope st (st.decos ++ [node]) sD (fun t => keys.foldl (fun m k => aset m k st.decos.length) t)
      have h2 := dtr_of_modScope (apiScope st parent) (st.decos ++ [node]) sD
        (fun t => keys.foldl (fun m k => aset m k st.decos.length) t)
      refine ⟨?_, trivial⟩
      rw [h1, dtr_apiScope, h2]
      · congr 1
        funext j
        rw [htbl j]
      ·
        show (if st.scopes.length = sD then _ else _) = []
        have hd := scope_ge_len st st.scopes.length (Nat.le_refl _)
        split
        · rename_i hs; omega
        · rw [hd]

theorem provide_decorate_swap_noGroup (ctx : Ctx) (fP fD : Fn) (st : St) (iP iD sP sD : Nat) (o : ProvideOpts) (cb info : Bool)
    (h : ∀ t ∈ (if fD.variadic then fD.ins.dropLast else fD.ins), noGroupT t = true) :
    (apiDecorate ctx fD (apiProvide ctx fP st iP sP o).1 iD sD cb info).1 =
      (apiProvide ctx fP (apiDecorate ctx fD st iD sD cb info).1 iP sP o).1 ∧
    (apiProvide ctx fP st iP sP o).2 = (apiProvide ctx fP (apiDecorate ctx fD st iD sD cb info).1 iP sP o).2 ∧
    (apiDecorate ctx fD (apiProvide ctx fP st iP sP o).1 iD sD cb info).2 = (apiDecorate ctx fD st iD sD cb info).2 :=
  provide_decorate_swap ctx fP fD st iP iD sP sD o cb info _ (fun x => parseParams_noGroup ctx.env fD h x sD)

theorem provide_decorate_swap_plain (ctx : Ctx) (fP fD : Fn) (st : St) (iP iD sP sD : Nat) (o : ProvideOpts) (cb info : Bool)
    (h : ∀ t ∈ (if fD.variadic then fD.ins.dropLast else fD.ins), ∃ i, t = GoT.univ i) :
    (apiDecorate ctx fD (apiProvide ctx fP st iP sP o).1 iD sD cb info).1 =
      (apiProvide ctx fP (apiDecorate ctx fD st iD sD cb info).1 iP sP o).1 ∧
    (apiProvide ctx fP st iP sP o).2 = (apiProvide ctx fP (apiDecorate ctx fD st iD sD cb info).1 iP sP o).2 ∧
    (apiDecorate ctx fD (apiProvide ctx fP st iP sP o).1 iD sD cb info).2 = (apiDecorate ctx fD st iD sD cb info).2 :=
  provide_decorate_swap_noGroup ctx fP fD st iP iD sP sD o cb info fun t ht => by obtain ⟨i, rfl⟩ := h t ht; rfl

theorem scope_decorate_swap_noGroup (ctx : Ctx) (fD : Fn) (st : St) (parent iD sD : Nat) (cb info : Bool)
    (hsD : sD < st.scopes.length) (h : ∀ t ∈ (if fD.variadic then fD.ins.dropLast else fD.ins), noGroupT t = true) :
    (apiDecorate ctx fD (apiScope st parent) iD sD cb info).1 = apiScope (apiDecorate ctx fD st iD sD cb info).1 parent ∧
    (apiDecorate ctx fD (apiScope st parent) iD sD cb info).2 = (apiDecorate ctx fD st iD sD cb info).2 :=
  scope_decorate_swap ctx fD st parent iD sD cb info hsD _ (fun x => parseParams_noGroup ctx.env fD h x sD)

end Dig
