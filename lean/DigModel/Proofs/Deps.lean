import DigModel.Proofs.NoBugApi
import DigModel.Proofs.Stable
import DigModel.Proofs.Reach
/-
  "Every dependency is there": a required single dependency that has been delivered sits in a cache on the path
  (`HasKey`), caches never lose a key (`KK`), and — an invariant of every operation of every program (`Deps`) — every
  built constructor and every decorator that has run has all its required single dependencies available from its own
  scope.  Together with `Just` (a cached value was produced by a built constructor of that scope) this is the
  "must-run" half of laziness: what a successful Invoke needed has run, transitively.
-/
namespace Dig

/-- a value for `k` can be had from scope `c` without running anything: a decorated value or a value is cached in a
    scope on the path to the root -/
def HasKey (st : St) (c : Nat) (k : Key) : Prop :=
  ∃ s ∈ st.ancestors c, (aget (st.scope s).decoratedValues k).isSome = true ∨ (aget (st.scope s).values k).isSome = true

/-- the registry is the same and no cache loses a key -/
def KK (a b : St) : Prop :=
  RegFrame a b ∧
  (∀ S k, (aget (a.scope S).values k).isSome = true → (aget (b.scope S).values k).isSome = true) ∧
  (∀ S k, (aget (a.scope S).decoratedValues k).isSome = true → (aget (b.scope S).decoratedValues k).isSome = true) ∧
  (∀ S k, (aget (a.scope S).decoratedGroups k).isSome = true → (aget (b.scope S).decoratedGroups k).isSome = true)

section
variable {a b : St} (h : KK a b) (S : Nat) (k : Key)
include h
theorem KK.reg : RegFrame a b := h.1
theorem KK.vals : (aget (a.scope S).values k).isSome = true → (aget (b.scope S).values k).isSome = true := h.2.1 S k
theorem KK.dvals : (aget (a.scope S).decoratedValues k).isSome = true → (aget (b.scope S).decoratedValues k).isSome = true :=
  h.2.2.1 S k
theorem KK.dgroups : (aget (a.scope S).decoratedGroups k).isSome = true → (aget (b.scope S).decoratedGroups k).isSome = true :=
  h.2.2.2 S k
end

theorem KK.refl (a : St) : KK a a := ⟨RegFrame.refl a, fun _ _ h => h, fun _ _ h => h, fun _ _ h => h⟩
theorem KK.trans {a b c : St} (h1 : KK a b) (h2 : KK b c) : KK a c :=
  ⟨h1.reg.trans h2.reg, fun S k h => h2.vals S k (h1.vals S k h), fun S k h => h2.dvals S k (h1.dvals S k h),
    fun S k h => h2.dgroups S k (h1.dgroups S k h)⟩

theorem HasKey.mono {a b : St} (h : KK a b) {c : Nat} {k : Key} (hk : HasKey a c k) : HasKey b c k := by
  obtain ⟨s, hs, hv⟩ := hk
  exact ⟨s, regFrame_ancestors h.reg c ▸ hs, hv.imp (h.dvals s k) (h.vals s k)⟩

theorem kk_same (a b : St) (hr : RegFrame a b) (hs : b.scopes = a.scopes) : KK a b :=
  ⟨hr, fun S k h => by rw [scope_of_scopes_eq hs S]; exact h, fun S k h => by rw [scope_of_scopes_eq hs S]; exact h,
    fun S k h => by rw [scope_of_scopes_eq hs S]; exact h⟩

theorem FlagsOnly.kk {a b : St} (h : FlagsOnly a b) : KK a b := kk_same a b h.reg h.scopes

/-- a tail only adds to the caches of the node's scope -/
theorem kk_ctorTail (ctx : Ctx) (st : St) (n : Nat) (node : CtorNode) (args : List Val) : KK st (ctorTail ctx n node args st).2 :=
  ⟨regFrame_ctorTail ctx st n node args, ctorTail_values_keep ctx n node args st, ctorTail_dv_keep ctx n node args st,
    fun S k h => ctorTail_scope_cases ctx n node args st S (P := fun sc => (aget sc.decoratedGroups k).isSome = true) h
      fun ret _ _ _ => by rw [(extractSlots_decoCaches ctx.env ret node.results _).2]; exact h⟩

theorem kk_decoTail (ctx : Ctx) (st : St) (d : Nat) (node : DecoNode) (args : List Val) : KK st (decoTail ctx d node args st).2 :=
  ⟨regFrame_decoTail ctx st d node args, fun S k h => by rw [decoTail_values]; exact h, decoTail_dv_keep ctx d node args st,
    fun S k h => decoTail_scope_cases ctx d node args st S (P := fun sc => (aget sc.decoratedGroups k).isSome = true) h
      fun ret _ _ _ => by rw [extractSlots_eq_foldl]; exact foldl_apply_keeps ctx.env ret .dgroups _ _ k h⟩

theorem kk_leaf (ctx : Ctx) : LeafRel2 ctx KK where
  refl := KK.refl
  trans := KK.trans
  toReg h := h.reg
  setOnStack st n := (flagsOnly_onStack st n true).kk
  clearOnStack st n := (flagsOnly_onStack st n false).kk
  ctorTail st n node args _ := kk_ctorTail ctx st n node args
  decoOnStack st d := (flagsOnly_decoOnStack st d).kk
  decoFinally st d := (flagsOnly_decoFinally st d).kk
  decoTail st d node args _ := kk_decoTail ctx st d node args

theorem kk_engine (ctx : Ctx) (fuel : Nat) :
    (∀ n c st, KK st (callCtor ctx fuel n c st).2) ∧ (∀ d s st, KK st (callDeco ctx fuel d s st).2) ∧
    (∀ k opt c st, KK st (buildSingle ctx fuel k opt c st).2) ∧ (∀ k soft c st, KK st (buildGroup ctx fuel k soft c st).2) ∧
    (∀ p c st, KK st (buildParam ctx fuel p c st).2) ∧ (∀ ps c st, KK st (buildList ctx fuel ps c st).2) :=
  engine_pres2 ctx (kk_leaf ctx) fuel

/-- a cache entry found in a scope on the path of the start state -/
theorem HasKey.of_cached {a b : St} (hk : KK a b) {c S : Nat} {k : Key} (hS : S ∈ a.ancestors c)
    (h : (aget (b.scope S).decoratedValues k).isSome = true ∨ (aget (b.scope S).values k).isSome = true) : HasKey b c k :=
  ⟨S, regFrame_ancestors hk.reg c ▸ hS, h⟩

/-! ### the invariant -/

mutual
/-- the required (non-optional) single dependencies of a parameter -/
def reqSingles : Param → List Key
  | .single k opt => if opt then [] else [k]
  | .grouped _ _ _ _ => []
  | .object _ fs => reqSinglesL fs
def reqSinglesL : List Param → List Key
  | [] => []
  | p :: ps => reqSingles p ++ reqSinglesL ps
end

theorem mem_reqSinglesL {k : Key} : ∀ {ps : List Param}, k ∈ reqSinglesL ps ↔ ∃ p ∈ ps, k ∈ reqSingles p
  | [] => by simp [reqSinglesL]
  | p :: ps => by
    simp only [reqSinglesL, List.mem_append, List.mem_cons, exists_eq_or_imp, mem_reqSinglesL (ps := ps)]

theorem mem_reqSingles_single {k k' : Key} {opt : Bool} : k' ∈ reqSingles (.single k opt) ↔ opt = false ∧ k' = k := by
  cases opt <;> simp [reqSingles]

/-- every built constructor, and every decorator that has run, has its required single dependencies available from
    the scope it was built from -/
structure Deps (st : St) : Prop where
  ctor : ∀ n, (st.ctor n).called = true → ∀ k ∈ reqSinglesL (st.ctor n).params, HasKey st (st.ctor n).origS k
  deco : ∀ d, (st.deco d).state = .called → ∀ k ∈ reqSinglesL (st.deco d).params, HasKey st (st.deco d).s k

/-- caches only grow, and a node that has become built had its required single dependencies at hand -/
theorem Deps.step {a b : St} (h : Deps a) (hk : KK a b)
    (hc : ∀ n, (b.ctor n).called = true →
      (a.ctor n).called = true ∨ ∀ k ∈ reqSinglesL (a.ctor n).params, HasKey a (a.ctor n).origS k)
    (hd : ∀ d, (b.deco d).state = .called →
      (a.deco d).state = .called ∨ ∀ k ∈ reqSinglesL (a.deco d).params, HasKey a (a.deco d).s k) : Deps b where
  ctor n hn k hkm := by
    have hs := hk.reg.ctorStatic n
    rw [← hs.params] at hkm; rw [← hs.origS]
    exact ((hc n hn).elim (h.ctor n) id k hkm).mono hk
  deco d hn k hkm := by
    have hs := hk.reg.decoStatic d
    rw [← hs.params] at hkm; rw [← hs.s]
    exact ((hd d hn).elim (h.deco d) id k hkm).mono hk

theorem Deps.flags {a b : St} (h : Deps a) (hf : FlagsOnly a b) : Deps b :=
  h.step hf.kk (fun n hn => Or.inl (by rw [← hf.called n]; exact hn)) fun d hd => Or.inl (hf.decoCalled d hd)

theorem Deps.ctorTail {ctx : Ctx} {st : St} (h : Deps st) (n : Nat) (node : CtorNode) (args : List Val)
    (hst : CtorStatic node (st.ctor n)) (hp : ∀ k ∈ reqSinglesL node.params, HasKey st node.origS k) :
    Deps (Dig.ctorTail ctx n node args st).2 := by
  refine h.step (kk_ctorTail ctx st n node args) (fun m hm => ?_) fun d hd => Or.inl ?_
  · rw [ctorTail_ctor] at hm
    split at hm
    · rename_i hc
      obtain ⟨_, rfl, _⟩ := hc
      rw [← hst.params, ← hst.origS]
      exact Or.inr hp
    · exact Or.inl hm
  · simp only [St.deco, ctorTail_decos] at hd
    exact hd

theorem Deps.decoTail {ctx : Ctx} {st : St} (h : Deps st) (d : Nat) (node : DecoNode) (args : List Val)
    (hst : DecoStatic node (st.deco d)) (hp : ∀ k ∈ reqSinglesL node.params, HasKey st node.s k) :
    Deps (Dig.decoTail ctx d node args st).2 := by
  refine h.step (kk_decoTail ctx st d node args) (fun m hm => Or.inl ?_) fun m hm => ?_
  · rw [decoTail_ctor] at hm
    exact hm
  · rw [decoTail_deco] at hm
    split at hm
    · rename_i hc
      obtain ⟨_, rfl, _⟩ := hc
      rw [← hst.params, ← hst.s]
      exact Or.inr hp
    · exact Or.inl hm

/-! ### the resolver -/

/-- an outcome with an invariant of the state and a post-condition of a normal return, read off the run -/
theorem Sat.inv_post {α : Type} {r : Except Fail α × St} {I Q : St → Prop} (h : Sat r (fun _ s => I s ∧ Q s) (fun _ => I)) :
    I r.2 ∧ ((∃ a, r.1 = .ok a) → Q r.2) := by
  rcases r with ⟨_ | _, s⟩
  · exact ⟨h, fun ⟨_, e⟩ => nomatch e⟩
  · exact ⟨h.1, fun _ => h.2⟩

/-- one parameter among those built one after the other: what the earlier ones delivered stays cached -/
theorem deps_step {ctx : Ctx} {fuel c : Nat}
    (ihP : ∀ p st, Deps st →
      Sat (buildParam ctx fuel p c st) (fun _ s => Deps s ∧ ∀ k ∈ reqSingles p, HasKey s c k) (fun _ => Deps))
    (f : Param) (s : St) (hs : Deps s) :
    Sat (buildParam ctx fuel f c s) (fun _ s' => Deps s' ∧ (∀ k ∈ reqSingles f, HasKey s' c k) ∧
      ∀ y : Param, (∀ k ∈ reqSingles y, HasKey s c k) → ∀ k ∈ reqSingles y, HasKey s' c k) (fun _ => Deps) :=
  ((ihP f s hs).and (sat_state.2 ((kk_engine ctx fuel).2.2.2.2.1 f c s))).mono
    (fun _ _ ⟨⟨hd, hq⟩, hk'⟩ => ⟨hd, hq, fun _ hg k hkg => (hg k hkg).mono hk'⟩) fun _ _ h => h.1

/-- the outcomes of the resolver from a state with `Deps`; **a required single dependency that was delivered is cached on
    the path** (the resolver hands out nothing else) -/
theorem deps_sat (ctx : Ctx) : ∀ fuel,
    (∀ n st, Deps st → Sat (callCtor ctx fuel n (st.ctor n).origS st) (fun _ => Deps) (fun _ => Deps)) ∧
    (∀ d s st, Deps st → Sat (callDeco ctx fuel d s st) (fun _ => Deps) (fun _ => Deps)) ∧
    (∀ k opt c st, Deps st →
      Sat (buildSingle ctx fuel k opt c st) (fun _ s => Deps s ∧ (opt = false → HasKey s c k)) (fun _ => Deps)) ∧
    (∀ k soft c st, Deps st → Sat (buildGroup ctx fuel k soft c st) (fun _ => Deps) (fun _ => Deps)) ∧
    (∀ p c st, Deps st →
      Sat (buildParam ctx fuel p c st) (fun _ s => Deps s ∧ ∀ k ∈ reqSingles p, HasKey s c k) (fun _ => Deps)) ∧
    (∀ ps c st, Deps st →
      Sat (buildList ctx fuel ps c st) (fun _ s => Deps s ∧ ∀ k ∈ reqSinglesL ps, HasKey s c k) (fun _ => Deps)) := by
  intro fuel
  induction fuel with
  | zero =>
    refine ⟨?_, ?_, ?_, ?_, ?_, ?_⟩ <;> intros
    · rw [callCtor_zero]; assumption
    · rw [callDeco_zero]; assumption
    · rw [buildSingle_zero]; assumption
    · rw [buildGroup_zero]; assumption
    · rw [buildParam_zero]; assumption
    · rw [buildList_zero]; assumption
  | succ fuel ih =>
    obtain ⟨ihC, ihD, ihS, ihG, ihP, ihL⟩ := ih
    refine ⟨?_, ?_, ?_, ?_, ?_, ?_⟩
    · -- callCtor
      intro n st h
      rw [callCtor_succ]
      split
      · exact h
      · split
        · exact h
        · have hf := flagsOnly_onStack st n true
          refine finally_sat (Q' := fun _ => Deps) (E' := fun _ => Deps) ?_
            (fun _ s hs => hs.flags (flagsOnly_onStack s n false)) fun _ s hs => hs.flags (flagsOnly_onStack s n false)
          refine bind_sat ((shallowCheck_sat _ _ _).mono (fun _ _ e => e) fun _ _ e => e.1 ▸ h.flags hf) ?_
          rintro _ _ rfl
          refine bind_sat (wrapErr_sat ((ihL _ _ _ (h.flags hf)).and
            (sat_state.2 ((kk_engine ctx fuel).2.2.2.2.2 (st.ctor n).params (st.ctor n).origS _))) fun _ _ h => h.1) ?_
          rintro args s2 ⟨⟨h2, hpost⟩, hk⟩
          exact sat_state.2 (h2.ctorTail n _ args ((hf.kk.trans hk).reg.ctorStatic n) hpost)
    · -- callDeco
      intro d s st h
      rw [callDeco_succ]
      split
      · exact h
      · have hf := flagsOnly_decoOnStack st d
        refine finally_sat (Q' := fun _ => Deps) (E' := fun _ => Deps) ?_
          (fun _ s hs => hs.flags (flagsOnly_decoFinally s d)) fun _ s hs => hs.flags (flagsOnly_decoFinally s d)
        refine bind_sat ((shallowCheck_sat _ _ _).mono (fun _ _ e => e) fun _ _ e => e.1 ▸ h.flags hf) ?_
        rintro _ _ rfl
        refine bind_sat (wrapErr_sat ((ihL _ _ _ (h.flags hf)).and
          (sat_state.2 ((kk_engine ctx fuel).2.2.2.2.2 (st.deco d).params (st.deco d).s _))) fun _ _ h => h.1) ?_
        rintro args s2 ⟨⟨h2, hpost⟩, hk⟩
        exact sat_state.2 (h2.decoTail d _ args ((hf.kk.trans hk).reg.decoStatic d) hpost)
    · -- buildSingle
      intro k opt c st h
      rw [buildSingle_succ]
      split
      · rename_i d ds hfd
        obtain ⟨_, _, hsplit, _⟩ := findDeco_spec st k _ d ds hfd
        refine bind_sat (wrapErr_sat ((ihD d ds st h).and (sat_state.2 ((kk_engine ctx fuel).2.1 d ds st)))
          fun _ _ h => h.1) ?_
        rintro _ st' ⟨h', hk⟩
        cases hv : aget (st'.scope ds).decoratedValues k with
        | none => exact h'
        | some v => exact ⟨h', fun _ => .of_cached hk (mem_of_eq_append hsplit) (Or.inl (by rw [hv]; rfl))⟩
      · split
        · rename_i w hdv
          obtain ⟨_, s, _, hsplit, hs, _⟩ := findDecoratedValue_some st k _ w hdv
          exact ⟨h, fun _ => .of_cached (KK.refl st) (mem_of_eq_append hsplit) (Or.inl (by rw [hs]; rfl))⟩
        · split
          · rename_i w hfp
            obtain ⟨_, s, _, hsplit, hs, _⟩ := findProviders_value st k _ w hfp
            exact ⟨h, fun _ => .of_cached (KK.refl st) (mem_of_eq_append hsplit) (Or.inr (by rw [hs]; rfl))⟩
          · split
            · rename_i ho
              exact ⟨h, fun hf => absurd ho (hf ▸ nofun)⟩
            · exact h
          · rename_i pc ns hfp
            obtain ⟨_, _, hsplit, _⟩ := findProviders_provs st k _ pc ns hfp
            -- an early exit of the provider loop is the zero value of an optional parameter
            refine bind_sat (firstM_sat ns (I := fun _ s => Deps s ∧ KK st s)
              (Q := fun o s => Deps s ∧ KK st s ∧ (o ≠ none → opt = true)) ⟨h, KK.refl st⟩ ?_
              fun _ h => ⟨h.1, h.2, fun hne => absurd rfl hne⟩) ?_
            · intro _ n _ _ s1 ⟨h1, hk1⟩
              refine providerStep_sat (Q := fun _ s => Deps s ∧ KK s1 s) (E' := fun _ s => Deps s ∧ KK s1 s)
                ((ihC n s1 h1).and (sat_state.2 ((kk_engine ctx fuel).1 n (s1.ctor n).origS s1)))
                (fun s h => ⟨h.1, hk1.trans h.2⟩) (fun _ s h ho => ⟨h.1, hk1.trans h.2, fun _ => (Bool.and_eq_true_iff.1 ho).2⟩)
                (fun _ _ h _ => h.1) fun _ _ _ h => h.1
            · rintro early st' ⟨h', hk, ho⟩
              cases early with
              | some z => exact ⟨h', fun hf => absurd (ho nofun) (hf ▸ nofun)⟩
              | none =>
                cases hv : aget (st'.scope pc).values k with
                | none => exact h'
                | some v => exact ⟨h', fun _ => .of_cached hk (mem_of_eq_append hsplit) (Or.inr (by rw [hv]; rfl))⟩
    · -- buildGroup
      intro k soft c st h
      exact buildGroup_inv (fun _ _ _ h => h) h (fun s _ d s1 h1 _ _ => ihD d s s1 h1) fun _ _ _ n _ s4 _ _ h4 => ihC n s4 h4
    · -- buildParam
      intro p c st h
      cases p with
      | single k opt =>
        rw [buildParam_succ]
        exact (ihS k opt c st h).mono (fun _ _ ⟨hd, hk⟩ => ⟨hd, fun k' hk' =>
          (mem_reqSingles_single.1 hk').2 ▸ hk (mem_reqSingles_single.1 hk').1⟩) fun _ _ h => h
      | grouped ty k soft pg =>
        rw [buildParam_succ]
        exact (ihG k soft c st h).mono (fun _ _ hd => ⟨hd, fun k' hk' => by simp [reqSingles] at hk'⟩) fun _ _ h => h
      | object ty fs =>
        refine (fields_sat_each (Q := fun f s => ∀ k ∈ reqSingles f, HasKey s c k) h
          fun f _ => deps_step (ihP · c) f).mono (fun _ _ ⟨hd, hp⟩ => ⟨hd, fun k hk => ?_⟩) fun _ _ h => h
        rw [reqSingles] at hk
        obtain ⟨f, hf, hkf⟩ := mem_reqSinglesL.mp hk
        exact hp f hf k hkf
    · -- buildList
      intro ps c st h
      rw [buildList_succ]
      exact (mapM_sat_each (Q := fun f s => ∀ k ∈ reqSingles f, HasKey s c k) h fun f _ => deps_step (ihP · c) f).mono
        (fun _ _ ⟨hd, hp⟩ => ⟨hd, fun k hk => (mem_reqSinglesL.mp hk).elim fun f hf => hp f hf.1 k hf.2⟩) fun _ _ h => h

/-- the resolver keeps `Deps`, and a parameter that was built has its required single dependencies cached on the path -/
theorem deps_engine (ctx : Ctx) : ∀ fuel,
    (∀ n st, Deps st → Deps (callCtor ctx fuel n (st.ctor n).origS st).2) ∧
    (∀ d s st, Deps st → Deps (callDeco ctx fuel d s st).2) ∧
    (∀ k opt c st, Deps st → Deps (buildSingle ctx fuel k opt c st).2) ∧
    (∀ k soft c st, Deps st → Deps (buildGroup ctx fuel k soft c st).2) ∧
    (∀ p c st, Deps st → Deps (buildParam ctx fuel p c st).2 ∧
      ((∃ v, (buildParam ctx fuel p c st).1 = .ok v) → ∀ k ∈ reqSingles p, HasKey (buildParam ctx fuel p c st).2 c k)) ∧
    (∀ ps c st, Deps st → Deps (buildList ctx fuel ps c st).2 ∧
      ((∃ v, (buildList ctx fuel ps c st).1 = .ok v) → ∀ k ∈ reqSinglesL ps, HasKey (buildList ctx fuel ps c st).2 c k)) :=
  fun fuel =>
    have ⟨hC, hD, hS, hG, hP, hL⟩ := deps_sat ctx fuel
    ⟨fun n st h => sat_state.1 (hC n st h), fun d s st h => sat_state.1 (hD d s st h),
      fun k opt c st h => sat_state.1 ((hS k opt c st h).mono (fun _ _ h => h.1) fun _ _ h => h),
      fun k soft c st h => sat_state.1 (hG k soft c st h), fun p c st h => (hP p c st h).inv_post,
      fun ps c st h => (hL ps c st h).inv_post⟩

/-! ### the API -/

/-- what `Deps` needs to survive an operation -/
structure Fr (a b : St) : Prop where
  anc : ∀ c, c < a.scopes.length → b.ancestors c = a.ancestors c
  vals : ∀ S k, (aget (a.scope S).values k).isSome = true → (aget (b.scope S).values k).isSome = true
  dvals : ∀ S k, (aget (a.scope S).decoratedValues k).isSome = true → (aget (b.scope S).decoratedValues k).isSome = true
  ctor : ∀ n, (b.ctor n).called = true →
    (a.ctor n).called = true ∧ (b.ctor n).params = (a.ctor n).params ∧ (b.ctor n).origS = (a.ctor n).origS
  deco : ∀ d, (b.deco d).state = .called →
    (a.deco d).state = .called ∧ (b.deco d).params = (a.deco d).params ∧ (b.deco d).s = (a.deco d).s

theorem HasKey.frame {a b : St} (hf : Fr a b) {c : Nat} {k : Key} (h : HasKey a c k) : HasKey b c k := by
  obtain ⟨s, hs, hv⟩ := h
  refine ⟨s, by rw [hf.anc c (ancestors_mem_lt hs)]; exact hs, ?_⟩
  rcases hv with hv | hv
  · exact Or.inl (hf.dvals s k hv)
  · exact Or.inr (hf.vals s k hv)

theorem Deps.frame {a b : St} (h : Deps a) (hf : Fr a b) : Deps b where
  ctor n hn k hk := by
    obtain ⟨h1, h2, h3⟩ := hf.ctor n hn
    rw [h2] at hk; rw [h3]
    exact (h.ctor n h1 k hk).frame hf
  deco d hd k hk := by
    obtain ⟨h1, h2, h3⟩ := hf.deco d hd
    rw [h2] at hk; rw [h3]
    exact (h.deco d h1 k hk).frame hf

theorem Fr.trans {a b c : St} (h1 : Fr a b) (h2 : Fr b c) (hl : a.scopes.length ≤ b.scopes.length) : Fr a c where
  anc x hx := by rw [h2.anc x (by omega), h1.anc x hx]
  vals S k h := h2.vals S k (h1.vals S k h)
  dvals S k h := h2.dvals S k (h1.dvals S k h)
  ctor n hn := by
    obtain ⟨a1, a2, a3⟩ := h2.ctor n hn
    obtain ⟨b1, b2, b3⟩ := h1.ctor n a1
    exact ⟨b1, a2.trans b2, a3.trans b3⟩
  deco d hd := by
    obtain ⟨a1, a2, a3⟩ := h2.deco d hd
    obtain ⟨b1, b2, b3⟩ := h1.deco d a1
    exact ⟨b1, a2.trans b2, a3.trans b3⟩

/-- same tree, same caches, same nodes -/
theorem fr_of_same {a b : St} (hl : b.scopes.length = a.scopes.length)
    (hs : ∀ j, (b.scope j).parent = (a.scope j).parent ∧ (b.scope j).values = (a.scope j).values ∧
      (b.scope j).decoratedValues = (a.scope j).decoratedValues)
    (hc : b.ctors = a.ctors) (hd : b.decos = a.decos) : Fr a b where
  anc c _ := ancestors_congr hl (fun j => (hs j).1) c
  vals S k h := by rw [(hs S).2.1]; exact h
  dvals S k h := by rw [(hs S).2.2]; exact h
  ctor n hn := by
    have : b.ctor n = a.ctor n := by simp only [St.ctor, hc]
    rw [this] at hn ⊢; exact ⟨hn, rfl, rfl⟩
  deco d hn := by
    have : b.deco d = a.deco d := by simp only [St.deco, hd]
    rw [this] at hn ⊢; exact ⟨hn, rfl, rfl⟩

end Dig

