import DigModel.Proofs.Rollback
import DigModel.Proofs.Dfs
/-
  The acyclicity check of a scope reads only the scope tree, the providers, the graph holders and the
  node tables — not the `isVerifiedAcyclic` flags, the `nodes` lists, the caches or the logs.  Hence the
  checks made one after the other by `Provide` all speak about the final container.
-/
namespace Dig

/-- the parts of the container a scope's dependency graph is computed from -/
def GraphSame (a b : St) : Prop :=
  a.ctors = b.ctors ∧ a.pgs = b.pgs ∧ a.scopes.length = b.scopes.length ∧
  ∀ j, (a.scope j).parent = (b.scope j).parent ∧ (a.scope j).providers = (b.scope j).providers ∧
    (a.scope j).gh = (b.scope j).gh

section
variable {a b : St} (h : GraphSame a b)
include h

theorem GraphSame.ctors : a.ctors = b.ctors := h.1
theorem GraphSame.pgs : a.pgs = b.pgs := h.2.1
theorem GraphSame.ctor (n : Nat) : a.ctor n = b.ctor n := congrArg (·.getD n default) h.1
theorem GraphSame.scopesLen : a.scopes.length = b.scopes.length := h.2.2.1
theorem GraphSame.parent (j : Nat) : (a.scope j).parent = (b.scope j).parent := (h.2.2.2 j).1
theorem GraphSame.providers (j : Nat) : (a.scope j).providers = (b.scope j).providers := (h.2.2.2 j).2.1
theorem GraphSame.gh (j : Nat) : (a.scope j).gh = (b.scope j).gh := (h.2.2.2 j).2.2

end

theorem GraphSame.refl (a : St) : GraphSame a a := ⟨rfl, rfl, rfl, fun _ => ⟨rfl, rfl, rfl⟩⟩
theorem GraphSame.symm {a b : St} (h : GraphSame a b) : GraphSame b a :=
  ⟨h.ctors.symm, h.pgs.symm, h.scopesLen.symm, fun j => ⟨(h.parent j).symm, (h.providers j).symm, (h.gh j).symm⟩⟩
theorem GraphSame.trans {a b c : St} (h1 : GraphSame a b) (h2 : GraphSame b c) : GraphSame a c :=
  ⟨h1.ctors.trans h2.ctors, h1.pgs.trans h2.pgs, h1.scopesLen.trans h2.scopesLen,
   fun j => ⟨(h1.parent j).trans (h2.parent j), (h1.providers j).trans (h2.providers j), (h1.gh j).trans (h2.gh j)⟩⟩

theorem GraphSame.ancestors {a b : St} (h : GraphSame a b) (s : Nat) : a.ancestors s = b.ancestors s :=
  ancestors_congr h.scopesLen h.parent s

theorem GraphSame.allProviders {a b : St} (h : GraphSame a b) (s : Nat) (k : Key) :
    a.allProviders s k = b.allProviders s k := by
  unfold St.allProviders
  rw [h.ancestors s]
  exact flatMap_congr' _ _ _ (fun x _ => by rw [h.providers x])

theorem edgesFrom_ctor {st : St} {s u n : Nat} (h : (st.scope s).gh[u]? = some (.ctor n)) :
    edgesFrom st s u = paramOrders.paramOrdersList st s (st.ctor n).params := by
  simp only [Dig.edgesFrom, h]

theorem edgesFrom_pg {st : St} {s u i : Nat} (h : (st.scope s).gh[u]? = some (.pg i)) :
    edgesFrom st s u = (st.allProviders s
      { ty := (st.pgs.getD i default).desc.elem, name := "", group := (st.pgs.getD i default).desc.group }).map
        fun n => orderOf (st.ctor n).orders s := by
  simp only [Dig.edgesFrom, h]

/-- the source of an edge is a position of the holder -/
theorem source_of_mem_edgesFrom {st : St} {s u v : Nat} (h : v ∈ edgesFrom st s u) : ∃ x, (st.scope s).gh[u]? = some x := by
  cases hu : (st.scope s).gh[u]? with
  | none => simp [Dig.edgesFrom, hu] at h
  | some x => exact ⟨x, rfl⟩

mutual
/-- graph nodes of the value-group parameters of a parameter tree -/
def pgsOf : Param → List Nat
  | .single _ _ => []
  | .grouped _ _ _ pg => [pg]
  | .object _ fs => pgsOfL fs
def pgsOfL : List Param → List Nat
  | [] => []
  | p :: ps => pgsOf p ++ pgsOfL ps
end

/-- scope `sb` of `b` shows the same graph as scope `sa` of `a` -/
structure LocalSame (a : St) (sa : Nat) (b : St) (sb : Nat) : Prop where
  gh : (b.scope sb).gh = (a.scope sa).gh
  params : ∀ n, GNode.ctor n ∈ (a.scope sa).gh → (b.ctor n).params = (a.ctor n).params
  desc : ∀ i, GNode.pg i ∈ (a.scope sa).gh → (b.pgs.getD i default).desc = (a.pgs.getD i default).desc
  prov : ∀ k, b.allProviders sb k = a.allProviders sa k
  ordC : ∀ k m, m ∈ a.allProviders sa k → orderOf (b.ctor m).orders sb = orderOf (a.ctor m).orders sa
  ordP : ∀ n, GNode.ctor n ∈ (a.scope sa).gh → ∀ i ∈ pgsOfL (a.ctor n).params,
    orderOf (b.pgs.getD i default).orders sb = orderOf (a.pgs.getD i default).orders sa

theorem pOrdersList_local {a b : St} {sa sb : Nat} (hprov : ∀ k, b.allProviders sb k = a.allProviders sa k)
    (hordC : ∀ k m, m ∈ a.allProviders sa k → orderOf (b.ctor m).orders sb = orderOf (a.ctor m).orders sa) : ∀ (ps : List Param),
    (∀ i ∈ pgsOfL ps, orderOf (b.pgs.getD i default).orders sb = orderOf (a.pgs.getD i default).orders sa) →
    paramOrders.paramOrdersList b sb ps = paramOrders.paramOrdersList a sa ps := by
  apply paramOrders.paramOrdersList.induct
    (motive_2 := fun p => (∀ i ∈ pgsOf p, orderOf (b.pgs.getD i default).orders sb = orderOf (a.pgs.getD i default).orders sa) →
      paramOrders b sb p = paramOrders a sa p)
    (motive_1 := fun ps => (∀ i ∈ pgsOfL ps, orderOf (b.pgs.getD i default).orders sb = orderOf (a.pgs.getD i default).orders sa) →
      paramOrders.paramOrdersList b sb ps = paramOrders.paramOrdersList a sa ps)
  · intro k opt _
    simp only [paramOrders, hprov k]
    apply List.map_congr_left
    intro m hm
    exact hordC k m hm
  · intro ty g soft pg h
    simp only [paramOrders]
    rw [h pg (by simp [pgsOf])]
  · intro ty fs ih h
    simp only [paramOrders]
    exact ih (fun i hi => h i (by simpa [pgsOf] using hi))
  · intro _; rfl
  · intro p ps ihp ihps h
    simp only [paramOrders.paramOrdersList]
    rw [ihp (fun i hi => h i (by simp [pgsOfL, hi])), ihps (fun i hi => h i (by simp [pgsOfL, hi]))]

theorem LocalSame.edgesFrom {a b : St} {sa sb : Nat} (h : LocalSame a sa b sb) (u : Nat) : edgesFrom b sb u = edgesFrom a sa u := by
  unfold Dig.edgesFrom
  rw [h.gh]
  cases hu : (a.scope sa).gh[u]? with
  | none => rfl
  | some x =>
    have hx : x ∈ (a.scope sa).gh := List.mem_of_getElem? hu
    cases x with
    | ctor n =>
      simp only
      rw [h.params n hx]
      exact pOrdersList_local h.prov h.ordC _ (h.ordP n hx)
    | pg i =>
      simp only
      rw [h.desc i hx, h.prov]
      apply List.map_congr_left
      intro m hm
      exact h.ordC _ m hm

theorem LocalSame.checkAcyclic {a b : St} {sa sb : Nat} (h : LocalSame a sa b sb) : checkAcyclic b sb = checkAcyclic a sa := by
  unfold Dig.checkAcyclic
  have he : Dig.edgesFrom b sb = Dig.edgesFrom a sa := funext h.edgesFrom
  simp only [h.gh, he]

theorem GraphSame.localSame {a b : St} (h : GraphSame a b) (s : Nat) : LocalSame b s a s where
  gh := h.gh s
  params n _ := by rw [h.ctor n]
  desc i _ := by rw [h.pgs]
  prov := h.allProviders s
  ordC k m _ := by rw [h.ctor m]
  ordP n _ i _ := by rw [h.pgs]

theorem GraphSame.edgesFrom {a b : St} (h : GraphSame a b) (s u : Nat) : edgesFrom a s u = edgesFrom b s u :=
  (h.localSame s).edgesFrom u

theorem GraphSame.checkAcyclic {a b : St} (h : GraphSame a b) (s : Nat) : checkAcyclic a s = checkAcyclic b s :=
  (h.localSame s).checkAcyclic

theorem graphSame_modScope (st : St) (s : Nat) (f : ScopeSt → ScopeSt)
    (hf : ∀ x, (f x).parent = x.parent ∧ (f x).providers = x.providers ∧ (f x).gh = x.gh) :
    GraphSame st (st.modScope s f) := by
  refine ⟨rfl, rfl, by simp [St.modScope], fun j => ?_⟩
  rw [scope_modScope]
  split
  · obtain ⟨h1, h2, h3⟩ := hf (st.scope j); exact ⟨h1.symm, h2.symm, h3.symm⟩
  · exact ⟨rfl, rfl, rfl⟩

/-- the verification loop leaves every graph as it is -/
theorem graphSame_verifyScopes (cfg : Cfg) : ∀ (l : List Nat) (w : St), GraphSame w (verifyScopes cfg l w).2 := by
  intro l
  induction l with
  | nil => intro w; exact GraphSame.refl w
  | cons sc rest ih =>
    intro w
    simp only [verifyScopes]
    have h1 : GraphSame w (w.modScope sc fun x => { x with verified := false }) :=
      graphSame_modScope w sc _ (fun _ => ⟨rfl, rfl, rfl⟩)
    split
    · exact h1.trans (ih _)
    · split
      · have h2 : GraphSame (w.modScope sc fun x => { x with verified := false })
            ((w.modScope sc fun x => { x with verified := false }).modScope sc fun x => { x with verified := true }) :=
          graphSame_modScope _ sc _ (fun _ => ⟨rfl, rfl, rfl⟩)
        exact h1.trans (h2.trans (ih _))
      · exact h1

theorem verifyScopes_acyclic (cfg : Cfg) (hd : cfg.deferAcyclic = false) (sc : Nat) (rest : List Nat) (w : St)
    (hc : checkAcyclic (w.modScope sc fun x => { x with verified := false }) sc = .acyclic) :
    verifyScopes cfg (sc :: rest) w = verifyScopes cfg rest
      ((w.modScope sc fun x => { x with verified := false }).modScope sc fun x => { x with verified := true }) := by
  simp only [verifyScopes, hd, Bool.false_eq_true, if_false, hc]

theorem verifyScopes_cycle (cfg : Cfg) (hd : cfg.deferAcyclic = false) (sc : Nat) (rest : List Nat) (w : St)
    (hc : checkAcyclic (w.modScope sc fun x => { x with verified := false }) sc ≠ .acyclic) :
    verifyScopes cfg (sc :: rest) w =
      (.error (sc, checkAcyclic (w.modScope sc fun x => { x with verified := false }) sc),
        w.modScope sc fun x => { x with verified := false }) := by
  simp only [verifyScopes, hd, Bool.false_eq_true, if_false]

/-- an eager verification loop that succeeds has seen every listed scope's graph answer "acyclic" -/
theorem verifyScopes_ok_acyclic (cfg : Cfg) (hd : cfg.deferAcyclic = false) : ∀ (l : List Nat) (w : St),
    (verifyScopes cfg l w).1 = .ok () → ∀ sc ∈ l, checkAcyclic (verifyScopes cfg l w).2 sc = .acyclic := by
  intro l
  induction l with
  | nil => intro w _ sc hsc; cases hsc
  | cons x rest ih =>
    intro w hok sc hsc
    have hgs := graphSame_verifyScopes cfg (x :: rest) w
    by_cases hc : checkAcyclic (w.modScope x fun y => { y with verified := false }) x = .acyclic
    · rw [verifyScopes_acyclic cfg hd x rest w hc] at hok hgs ⊢
      rcases List.mem_cons.mp hsc with rfl | hm
      · rw [← hgs.checkAcyclic sc, (graphSame_modScope w sc (fun y => { y with verified := false })
          (fun _ => ⟨rfl, rfl, rfl⟩)).checkAcyclic sc]
        exact hc
      · exact ih _ hok sc hm
    · rw [verifyScopes_cycle cfg hd x rest w hc] at hok; cases hok

theorem verifyScopes_defer_ok (cfg : Cfg) (hd : cfg.deferAcyclic = true) : ∀ (l : List Nat) (w : St),
    (verifyScopes cfg l w).1 = .ok () := by
  intro l
  induction l with
  | nil => intro w; rfl
  | cons sc rest ih => intro w; simp only [verifyScopes, hd, if_true]; exact ih _

/-- a failing loop names a scope and the answer of that scope's check, on a container with the same graphs -/
theorem verifyScopes_err_check (cfg : Cfg) : ∀ (l : List Nat) (w : St) (sc : Nat) (r : CycleRes),
    (verifyScopes cfg l w).1 = .error (sc, r) →
      sc ∈ l ∧ checkAcyclic (verifyScopes cfg l w).2 sc = r ∧ r ≠ .acyclic := by
  by_cases hd : cfg.deferAcyclic = true
  · intro l w sc r h
    rw [verifyScopes_defer_ok cfg hd] at h; cases h
  · have hd' : cfg.deferAcyclic = false := by simpa using hd
    intro l
    induction l with
    | nil => intro w sc r h; simp [verifyScopes] at h
    | cons x rest ih =>
      intro w sc r h
      by_cases hc : checkAcyclic (w.modScope x fun y => { y with verified := false }) x = .acyclic
      · rw [verifyScopes_acyclic cfg hd' x rest w hc] at h ⊢
        obtain ⟨h1, h2, h3⟩ := ih _ sc r h
        exact ⟨List.mem_cons_of_mem _ h1, h2, h3⟩
      · rw [verifyScopes_cycle cfg hd' x rest w hc] at h ⊢
        cases h
        exact ⟨List.mem_cons_self, rfl, hc⟩

/-- what the answers of a scope's check mean for the scope's dependency graph -/
theorem checkAcyclic_acyclic (st : St) (s : Nat) (h : checkAcyclic st s = .acyclic) :
    ∃ vis, Dfs.isAcyclic (edgesFrom st s) (st.scope s).gh.length = .ok vis := by
  unfold Dig.checkAcyclic at h
  simp only at h
  split at h
  · cases h
  · split at h
    · exact ⟨_, ‹_›⟩
    · cases h
    · cases h

theorem checkAcyclic_cycle (st : St) (s : Nat) (p : List Nat) (h : checkAcyclic st s = .cycle p) :
    Dfs.isAcyclic (edgesFrom st s) (st.scope s).gh.length = .cycle p := by
  unfold Dig.checkAcyclic at h
  simp only at h
  split at h
  · cases h
  · split at h
    · cases h
    · cases h; assumption
    · cases h

/-- an "acyclic" answer: no walk among the positions of the holder returns to its start -/
theorem checkAcyclic_sound (st : St) (s : Nat) (h : checkAcyclic st s = .acyclic) (a : Nat) (l : List Nat) (hl : l ≠ [])
    (hn : ∀ x ∈ a :: l, x < (st.scope s).gh.length) (hw : Dfs.IsWalk (edgesFrom st s) (a :: l)) :
    (a :: l).getLast (by simp) ≠ a := by
  obtain ⟨vis, hv⟩ := checkAcyclic_acyclic st s h
  exact Dfs.isAcyclic_sound _ _ vis hv a l hl hn hw

end Dig
