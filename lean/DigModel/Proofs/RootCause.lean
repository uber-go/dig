import DigModel.Proofs.Body
import DigModel.Proofs.Hoare
/-
  Error transparency through the whole resolver (C13, C07): whatever the registry and the caches are,

  * a resolver call that returns normally has logged no failing execution;
  * a resolver call that returns an error whose root cause is the error of execution `x` of `f` (or, with
    RecoverFromPanics, its panic) has logged exactly one failing execution, that one, and nothing but callback
    events after it; an error with a root cause of dig's own has logged no failing execution;
  * a propagating panic of execution `x` of `f` is the only failing execution logged.

  In particular an optional parameter never absorbs a user function's failure (`hasMissingDeps = false` travels with
  every user-rooted error), and the first failure is the failure reported.
-/
namespace Dig

def Event.isFail : Event → Bool
  | .exit _ _ _ .ok => false
  | .exit _ _ _ _ => true
  | _ => false

def Event.isCb : Event → Bool
  | .cb _ _ _ _ _ => true
  | _ => false

def Clean (l : List Event) : Prop := ∀ e ∈ l, e.isFail = false

/-- `l` contains exactly one failing execution, that of `f`'s execution `x` for node `who`, ending as `k`;
    only callback events follow it -/
def FailAt (l : List Event) (who : Who) (f x : Nat) (k : ExitKind) : Prop :=
  ∃ l1 cbs, l = l1 ++ Event.exit who f x k :: cbs ∧ Clean l1 ∧ (∀ e ∈ cbs, e.isCb = true) ∧ k ≠ .ok

def DigRoot (e : DErr) : Prop := ∀ f x, e.rootCause ≠ .user f x ∧ e.rootCause ≠ .panicErr f x

/-- the two failures the resolver produces by itself: a missing type, a constructor needed for its own arguments -/
def EngRoot (e : DErr) : Prop := (∃ ks, e.rootCause = .missingTypes ks) ∨ (∃ p s, e.rootCause = .cycle p s)

theorem EngRoot.digRoot {e : DErr} (h : EngRoot e) : DigRoot e := by
  intro f x
  rcases h with ⟨ks, h⟩ | ⟨p, s, h⟩ <;> (rw [h]; constructor <;> (intro hc; cases hc))

def Good {α : Type} (ctx : Ctx) (l : List Event) : Except Fail α → Prop
  | .ok _ => Clean l
  | .error (.err e) => (Clean l ∧ EngRoot e) ∨
      (e.hasMissingDeps = false ∧ ∃ who f x, who ≠ Who.invoked ∧
        ((e.rootCause = .user f x ∧ (ctx.beh f x).k = .err ∧ FailAt l who f x .err) ∨
         (e.rootCause = .panicErr f x ∧ ctx.cfg.recover = true ∧ (ctx.beh f x).k = .panic ∧ FailAt l who f x .panic)))
  | .error (.panic f x) => ctx.cfg.recover = false ∧ (ctx.beh f x).k = .panic ∧ ∃ who, who ≠ Who.invoked ∧ FailAt l who f x .panic
  | .error _ => True

def ER {α : Type} (ctx : Ctx) (m : EM α) (st : St) : Prop :=
  ∃ l, (m st).2.log = st.log ++ l ∧ Good ctx l (m st).1

theorem Clean.nil : Clean [] := by intro e he; cases he
theorem Clean.append {a b : List Event} (ha : Clean a) (hb : Clean b) : Clean (a ++ b) := by
  intro e he
  rcases List.mem_append.mp he with h | h
  · exact ha e h
  · exact hb e h

theorem FailAt.prepend {l1 l : List Event} {who : Who} {f x : Nat} {k : ExitKind} (h1 : Clean l1)
    (h : FailAt l who f x k) : FailAt (l1 ++ l) who f x k := by
  obtain ⟨a, cbs, e, ha, hc, hk⟩ := h
  exact ⟨l1 ++ a, cbs, by rw [e, List.append_assoc], h1.append ha, hc, hk⟩

theorem Good.prepend {α : Type} {ctx : Ctx} {l1 l : List Event} (h1 : Clean l1) :
    ∀ {r : Except Fail α}, Good ctx l r → Good ctx (l1 ++ l) r := by
  intro r h
  cases r with
  | ok a => exact h1.append h
  | error f =>
    cases f with
    | err e =>
      rcases h with ⟨hc, hd⟩ | ⟨hm, who, f, x, hw, h⟩
      · exact Or.inl ⟨h1.append hc, hd⟩
      · refine Or.inr ⟨hm, who, f, x, hw, ?_⟩
        rcases h with ⟨hr, hb, hf⟩ | ⟨hr, hrec, hb, hf⟩
        · exact Or.inl ⟨hr, hb, hf.prepend h1⟩
        · exact Or.inr ⟨hr, hrec, hb, hf.prepend h1⟩
    | panic f x =>
      obtain ⟨hrec, hb, who, hw, hf⟩ := h
      exact ⟨hrec, hb, who, hw, hf.prepend h1⟩
    | bug => trivial
    | fuel => trivial

/-- a failing outcome says the same about every result type -/
theorem Good.error_cast {α β : Type} {ctx : Ctx} {l : List Event} {f : Fail}
    (h : Good (α := α) ctx l (.error f)) : Good (α := β) ctx l (.error f) := by
  cases f <;> exact h

/-- a wrapper of errors through which the root cause and the test for `errMissingDependencies` look -/
structure Transparent (w : DErr → DErr) : Prop where
  rootCause : ∀ e, (w e).rootCause = e.rootCause
  hasMissingDeps : ∀ e, (w e).hasMissingDeps = e.hasMissingDeps

theorem Transparent.argsFailed : Transparent .argsFailed :=
  ⟨fun _ => rfl, fun e => by simp [DErr.hasMissingDeps, DErr.chain]⟩
theorem Transparent.paramSingle (k : Key) (c : Nat) : Transparent (.paramSingle k c) :=
  ⟨fun _ => rfl, fun e => by simp [DErr.hasMissingDeps, DErr.chain]⟩
theorem Transparent.paramGroup (k : Key) (c : Nat) : Transparent (.paramGroup k c) :=
  ⟨fun _ => rfl, fun e => by simp [DErr.hasMissingDeps, DErr.chain]⟩

/-! ### `ER` as an outcome: the two post-conditions, for the events since the log was `l0` -/

def CleanSince (l0 : List Event) (s : St) : Prop := ∃ l, s.log = l0 ++ l ∧ Clean l

def FailSince (ctx : Ctx) (l0 : List Event) (f : Fail) (s : St) : Prop :=
  ∃ l, s.log = l0 ++ l ∧ Good (α := Unit) ctx l (.error f)

theorem CleanSince.refl (s : St) : CleanSince s.log s := ⟨[], (List.append_nil _).symm, Clean.nil⟩

theorem ER.of_sat {α : Type} {ctx : Ctx} {m : EM α} {st : St}
    (h : Sat (m st) (fun _ => CleanSince st.log) (FailSince ctx st.log)) : ER ctx m st := by
  unfold ER
  generalize m st = r at h
  rcases r with ⟨f | a, s⟩
  · exact h.imp fun l hl => ⟨hl.1, hl.2.error_cast⟩
  · exact h

/-- "Good composes": a run that starts after clean events -/
theorem ER.sat {α : Type} {ctx : Ctx} {m : EM α} {s : St} (h : ER ctx m s) {l0 : List Event} (h0 : CleanSince l0 s) :
    Sat (m s) (fun _ => CleanSince l0) (FailSince ctx l0) := by
  obtain ⟨l1, e1, c1⟩ := h0
  obtain ⟨l, e, g⟩ := h
  generalize m s = r at e g
  rw [e1, List.append_assoc] at e
  rcases r with ⟨f | a, s'⟩
  · exact ⟨l1 ++ l, e, Good.prepend c1 g.error_cast⟩
  · exact ⟨l1 ++ l, e, Good.prepend (α := α) (r := .ok a) c1 g⟩

section
variable {ctx : Ctx} {l0 : List Event} {s : St}

theorem CleanSince.err (h : CleanSince l0 s) {e : DErr} (he : EngRoot e) : FailSince ctx l0 (.err e) s :=
  h.imp fun _ hl => ⟨hl.1, Or.inl ⟨hl.2, he⟩⟩

theorem CleanSince.bug (h : CleanSince l0 s) : FailSince ctx l0 .bug s := h.imp fun _ hl => ⟨hl.1, trivial⟩

theorem CleanSince.fuel (h : CleanSince l0 s) : FailSince ctx l0 .fuel s := h.imp fun _ hl => ⟨hl.1, trivial⟩

theorem FailSince.wrap {w : DErr → DErr} (hw : Transparent w) {f : Fail} (h : FailSince ctx l0 f s) :
    FailSince ctx l0 (f.wrap w) s := by
  cases f with
  | err e =>
    refine h.imp fun l hl => ⟨hl.1, ?_⟩
    show Good (α := Unit) ctx l (.error (.err (w e)))
    simp only [Good, EngRoot, hw.rootCause, hw.hasMissingDeps]
    exact hl.2
  | _ => exact h

/-- an optional parameter absorbs only failures of dig's own: a user function's failure has no `errMissingDependencies` -/
theorem FailSince.absorb {e : DErr} (h : FailSince ctx l0 (.err e) s) (hm : e.hasMissingDeps = true) : CleanSince l0 s := by
  obtain ⟨l, hl, hc | hu⟩ := h
  · exact ⟨l, hl, hc.1⟩
  · rw [hu.1] at hm; cases hm

end

/-- the result of a body and the kind of its exit event agree -/
theorem bodyRes_kind (ctx : Ctx) (fn : Fn) (st : St) :
    match bodyRes ctx fn st with
    | .panic x => x = st.execCount fn.id ∧ exitKind ctx fn (ctx.beh fn.id (st.execCount fn.id)) = .panic ∧
        (ctx.beh fn.id (st.execCount fn.id)).k = .panic
    | .err x _ => x = st.execCount fn.id ∧ exitKind ctx fn (ctx.beh fn.id (st.execCount fn.id)) = .err ∧
        (ctx.beh fn.id (st.execCount fn.id)).k = .err
    | .ok _ _ => exitKind ctx fn (ctx.beh fn.id (st.execCount fn.id)) = .ok
    | .dry => False := by
  unfold bodyRes exitKind
  cases hk : (ctx.beh fn.id (st.execCount fn.id)).k
  · simp [hk]
  · by_cases h : (errOuts ctx.env fn).isEmpty <;> simp [h, hk]
  · simp [hk]

theorem clean_enter (who : Who) (f x : Nat) (args : List Val) : Clean [Event.enter who f x args] := by
  intro e he
  simp only [List.mem_singleton] at he
  subst he; rfl

theorem Clean.of_cb {l : List Event} (h : ∀ e ∈ l, e.isCb = true) : Clean l := fun e he => by
  cases e with
  | cb => rfl
  | _ => exact absurd (h _ he) nofun

theorem clean_body_ok (who : Who) (f x : Nat) (args : List Val) {l : List Event} (hl : ∀ e ∈ l, e.isCb = true) :
    Clean ([Event.enter who f x args, Event.exit who f x .ok] ++ l) :=
  (clean_enter who f x args).append (Clean.append (a := [_]) (fun _ he => List.mem_singleton.1 he ▸ rfl) (.of_cb hl))

theorem failAt_body (who : Who) (f x : Nat) (args : List Val) (k : ExitKind) (hk : k ≠ .ok) {l : List Event}
    (hl : ∀ e ∈ l, e.isCb = true) : FailAt ([Event.enter who f x args, Event.exit who f x k] ++ l) who f x k :=
  ⟨[Event.enter who f x args], l, rfl, clean_enter who f x args, hl, hk⟩

/-- what a node's `Call` makes of the result `r` of its function `f`: constructors and decorators differ only in the
    wrapper around the function's own error -/
inductive Outcome (ctx : Ctx) (f : Nat) : BodyRes → Except Fail Unit → Prop
  | ok (x len : Nat) : Outcome ctx f (.ok x len) (.ok ())
  | dry : Outcome ctx f .dry (.ok ())
  | err (x o : Nat) (e : DErr) : e.rootCause = .user f x → e.hasMissingDeps = false → Outcome ctx f (.err x o) (.error (.err e))
  | recovered (x : Nat) : ctx.cfg.recover = true → Outcome ctx f (.panic x) (.error (.err (.panicErr f x)))
  | panic (x : Nat) : ctx.cfg.recover = false → Outcome ctx f (.panic x) (.error (.panic f x))

theorem ctorOutcome_spec (ctx : Ctx) (f : Nat) (r : BodyRes) : Outcome ctx f r (ctorOutcome ctx f r).1 := by
  unfold ctorOutcome
  cases r with
  | ok x len => exact .ok x len
  | dry => exact .dry
  | err x o => exact .err x o _ rfl (by simp [DErr.hasMissingDeps, DErr.chain])
  | panic x => cases h : ctx.cfg.recover <;> simp only [if_true, Bool.false_eq_true, if_false] <;> constructor <;> exact h

theorem decoOutcome_spec (ctx : Ctx) (f : Nat) (r : BodyRes) : Outcome ctx f r (decoOutcome ctx f r).1 := by
  unfold decoOutcome
  cases r with
  | ok x len => exact .ok x len
  | dry => exact .dry
  | err x o => exact .err x o _ rfl (by simp [DErr.hasMissingDeps, DErr.chain])
  | panic x => cases h : ctx.cfg.recover <;> simp only [if_true, Bool.false_eq_true, if_false] <;> constructor <;> exact h

/-- an `error` that a node's `Call` makes of its function's result is the function's own -/
theorem Outcome.err_root {ctx : Ctx} {f : Nat} {r : BodyRes} {e : DErr} (h : Outcome ctx f r (.error (.err e))) :
    e.hasMissingDeps = false ∧ ∃ x, e.rootCause = .user f x ∨ e.rootCause = .panicErr f x := by
  cases h with
  | err x o _ hr hm => exact ⟨hm, x, Or.inl hr⟩
  | recovered x _ => exact ⟨rfl, x, Or.inr rfl⟩

/-- the events of one run of a node's function (as `ctorTail_log`, `decoTail_log` give them) and what `Call` returns -/
theorem good_tail (ctx : Ctx) (who : Who) (hw : who ≠ .invoked) (fn : Fn) (args : List Val) (st : St) {lb lc : List Event}
    {res : Except Fail Unit}
    (hlb : (ctx.cfg.dry = true ∧ lb = []) ∨ (ctx.cfg.dry = false ∧ lb = bodyEvents ctx who fn args st))
    (hlc : lc = [] ∨ ∃ op err rt, lc = [.cb op who fn.id err rt])
    (hres : Outcome ctx fn.id (callBody ctx who fn args st).1 res) : Good ctx (lb ++ lc) res := by
  have hcb : ∀ e ∈ lc, e.isCb = true := by
    rcases hlc with rfl | ⟨op, err, rt, rfl⟩
    · exact nofun
    · exact fun e he => List.mem_singleton.1 he ▸ rfl
  rcases hlb with ⟨hd, rfl⟩ | ⟨hnd, rfl⟩
  · rw [callBody_dry ctx hd] at hres
    cases hres
    exact .of_cb hcb
  · rw [callBody_spec ctx hnd] at hres
    have hk := bodyRes_kind ctx fn st
    simp only [bodyEvents]
    generalize bodyRes ctx fn st = r at hres hk
    cases hres with
    | ok x len => rw [hk]; exact clean_body_ok _ _ _ _ hcb
    | dry => exact hk.elim
    | err x o e hr hm =>
      obtain ⟨rfl, hk, hb⟩ := hk
      rw [hk]
      exact Or.inr ⟨hm, who, fn.id, _, hw, Or.inl ⟨hr, hb, failAt_body _ _ _ _ .err nofun hcb⟩⟩
    | recovered x hrec =>
      obtain ⟨rfl, hk, hb⟩ := hk
      rw [hk]
      exact Or.inr ⟨rfl, who, fn.id, _, hw, Or.inr ⟨rfl, hrec, hb, failAt_body _ _ _ _ .panic nofun hcb⟩⟩
    | panic x hrec =>
      obtain ⟨rfl, hk, hb⟩ := hk
      rw [hk]
      exact ⟨hrec, hb, who, hw, failAt_body _ _ _ _ .panic nofun hcb⟩

theorem er_ctorTail (ctx : Ctx) (n : Nat) (node : CtorNode) (args : List Val) (st : St) :
    ER ctx (ctorTail ctx n node args) st := by
  obtain ⟨lb, lc, _, hlog, hlb, hlc⟩ := ctorTail_log ctx n node args st
  exact ⟨_, hlog, good_tail ctx (.ctor n) nofun node.fn args st hlb hlc (ctorOutcome_spec ctx node.fn.id _)⟩

theorem er_decoTail (ctx : Ctx) (d : Nat) (node : DecoNode) (args : List Val) (st : St) :
    ER ctx (decoTail ctx d node args) st := by
  obtain ⟨lb, lc, _, hlog, hlb, hlc⟩ := decoTail_log ctx d node args st
  exact ⟨_, hlog, good_tail ctx (.deco d) nofun node.fn args st hlb hlc (decoOutcome_spec ctx node.fn.id _)⟩

theorem engRoot_missing (ks : List Key) : EngRoot (.missingDeps (.missingTypes ks)) := Or.inl ⟨ks, rfl⟩
theorem engRoot_missingTypes (ks : List Key) : EngRoot (.missingTypes ks) := Or.inl ⟨ks, rfl⟩
theorem engRoot_cycle (p : List Nat) (s : Nat) : EngRoot (.cycle p s) := Or.inr ⟨p, s, rfl⟩
theorem digRoot_missing (ks : List Key) : DigRoot (.missingDeps (.missingTypes ks)) := (engRoot_missing ks).digRoot
theorem digRoot_missingTypes (ks : List Key) : DigRoot (.missingTypes ks) := (engRoot_missingTypes ks).digRoot
theorem digRoot_cycle (p : List Nat) (s : Nat) : DigRoot (.cycle p s) := (engRoot_cycle p s).digRoot

/-- **error transparency of the whole resolver**, from any state -/
theorem engine_root (ctx : Ctx) :
    ∀ fuel,
      (∀ n c st, ER ctx (callCtor ctx fuel n c) st) ∧
      (∀ d s st, ER ctx (callDeco ctx fuel d s) st) ∧
      (∀ k opt c st, ER ctx (buildSingle ctx fuel k opt c) st) ∧
      (∀ k soft c st, ER ctx (buildGroup ctx fuel k soft c) st) ∧
      (∀ p c st, ER ctx (buildParam ctx fuel p c) st) ∧
      (∀ ps c st, ER ctx (buildList ctx fuel ps c) st) := by
  intro fuel
  induction fuel with
  | zero =>
    refine ⟨?_, ?_, ?_, ?_, ?_, ?_⟩ <;> intros <;> refine ER.of_sat ?_
    · rw [callCtor_zero]; exact (CleanSince.refl _).fuel
    · rw [callDeco_zero]; exact (CleanSince.refl _).fuel
    · rw [buildSingle_zero]; exact (CleanSince.refl _).fuel
    · rw [buildGroup_zero]; exact (CleanSince.refl _).fuel
    · rw [buildParam_zero]; exact (CleanSince.refl _).fuel
    · rw [buildList_zero]; exact (CleanSince.refl _).fuel
  | succ fuel ih =>
    obtain ⟨ihC, ihD, ihS, ihG, ihP, ihL⟩ := ih
    refine ⟨?_, ?_, ?_, ?_, ?_, ?_⟩
    · intro n c st
      refine ER.of_sat ?_
      have h0 := CleanSince.refl st
      rw [callCtor_succ]
      split
      · exact h0
      · split
        · exact h0.err (engRoot_cycle _ _)
        · -- the marks on the way in and out leave the log alone
          refine finally_sat (Q' := fun _ => CleanSince st.log) (E' := FailSince ctx st.log) ?_ (fun _ _ h => h) (fun _ _ h => h)
          refine bind_sat (R := fun _ => CleanSince st.log) ((shallowCheck_sat _ _ _).mono (fun _ _ e => by rw [e]; exact h0)
            (fun _ _ ⟨e, _, ef⟩ => by rw [e, ef]; exact h0.err (engRoot_missing _))) fun _ s2 h2 => ?_
          refine bind_sat (wrapErr_sat ((ihL _ c s2).sat h2) fun _ _ h => h.wrap .argsFailed) fun args s3 h3 => ?_
          exact (er_ctorTail ctx n _ args s3).sat h3
    · intro d s st
      refine ER.of_sat ?_
      have h0 := CleanSince.refl st
      rw [callDeco_succ]
      split
      · exact h0
      · refine finally_sat (Q' := fun _ => CleanSince st.log) (E' := FailSince ctx st.log) ?_ (fun _ _ h => h) (fun _ _ h => h)
        refine bind_sat (R := fun _ => CleanSince st.log) ((shallowCheck_sat _ _ _).mono (fun _ _ e => by rw [e]; exact h0)
          (fun _ _ ⟨e, _, ef⟩ => by rw [e, ef]; exact h0.err (engRoot_missing _))) fun _ s2 h2 => ?_
        refine bind_sat (wrapErr_sat ((ihL _ _ s2).sat h2) fun _ _ h => h.wrap .argsFailed) fun args s3 h3 => ?_
        exact (er_decoTail ctx d _ args s3).sat h3
    · intro k opt c st
      refine ER.of_sat ?_
      have h0 := CleanSince.refl st
      rw [buildSingle_succ]
      split
      · refine bind_sat (wrapErr_sat ((ihD _ _ st).sat h0) fun _ _ h => h.wrap (.paramSingle k 1)) fun _ s' h => ?_
        split
        · exact h
        · exact h.bug
      · split
        · exact h0
        · split
          · exact h0
          · split
            · exact h0
            · exact h0.err (engRoot_missingTypes _)
          · refine bind_sat (firstM_inv h0 fun n _ s1 h1 => ?_) fun early s' h => ?_
            · exact providerStep_sat ((ihC n _ s1).sat h1) (fun _ h => h)
                (fun _ _ h hc => h.absorb (Bool.and_eq_true_iff.1 hc).1) (fun _ _ h _ => h.wrap (.paramSingle k _))
                (fun _ _ _ h => h)
            · split
              · exact h
              · split
                · exact h
                · exact h.bug
    · intro k soft c st
      exact ER.of_sat (buildGroup_inv (fun _ _ _ h => h.wrap (.paramGroup k _)) (CleanSince.refl st)
        (fun _ _ _ s1 h1 _ _ => (ihD _ _ s1).sat h1) fun _ _ _ _ _ s4 _ _ h4 => (ihC _ _ s4).sat h4)
    · intro p c st
      cases p with
      | single k opt => rw [buildParam_succ]; exact ihS k opt c st
      | grouped ty k soft pg => rw [buildParam_succ]; exact ihG k soft c st
      | object ty fs => exact ER.of_sat (fields_inv (CleanSince.refl st) fun f _ s h => (ihP f c s).sat h)
    · intro ps c st
      refine ER.of_sat ?_
      rw [buildList_succ]
      exact mapM_inv (CleanSince.refl st) fun p _ s h => (ihP p c s).sat h

end Dig
