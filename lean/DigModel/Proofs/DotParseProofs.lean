import DigModel.Proofs.DotRenderProofs
/-
  The tokens of the document `visualizeGraph` writes parse as DOT, into exactly the statements the writer meant: one
  node per value group with an edge to each member, one cluster per constructor holding its result nodes, one edge per
  parameter (dashed exactly when optional) and per group parameter, one coloured node per failed result.
-/
namespace Dig.DotRender
open Dig.DotSyntax Dig.DotText

theorem run_append (st : PState) : ∀ (a b : List Tok), run st (a ++ b) = (run st a).bind fun s => run s b := by
  intro a
  induction a generalizing st with
  | nil => intro b; simp [run]
  | cons t rest ih =>
    intro b
    simp only [List.cons_append, run]
    cases h : step st t with
    | none => simp
    | some st' => simp [ih]

theorem toks_append : ∀ (a b : List Item), toks (a ++ b) = toks a ++ toks b
  | [], _ => rfl
  | .ws _ :: rest, b => by simp [toks, toks_append rest b]
  | .tk t :: rest, b => by simp [toks, toks_append rest b]

theorem toks_flatMap {α : Type} (f : α → List Item) : ∀ (xs : List α), toks (xs.flatMap f) = xs.flatMap fun x => toks (f x)
  | [] => rfl
  | x :: rest => by simp [List.flatMap_cons, toks_append, toks_flatMap f rest]

def A (k : String) (v : Tok) : Attr := { key := .bare k.toList, val := v }

def clusterTok (i : Nat) : Tok := .bare ("cluster_".toList ++ natDigits i)
def ctorTok (i : Nat) : Tok := .bare ("constructor_".toList ++ natDigits i)

section
variable (q : List Char → List Char)

def groupAst (g : RGroup) : List Stmt :=
  Stmt.node (.quoted (q g.str))
    ([A "shape" (.bare "diamond".toList), A "label" (.html (labelBody g.ty (some ("Group: ".toList, g.name))))] ++
     (if g.err = 0 then [] else [A "color" (.bare (colorName g.err).toList)])) ::
  g.results.map fun r => Stmt.edge (.quoted (q g.str)) (.quoted (q r)) []

def paramAst (i : Nat) (p : RParam) : Stmt :=
  .edge (ctorTok i) (.quoted (q p.str))
    ([A "ltail" (clusterTok i)] ++ (if p.optional then [A "style" (.bare "dashed".toList)] else []))

def gparamAst (i : Nat) (g : List Char) : Stmt := .edge (ctorTok i) (.quoted (q g)) [A "ltail" (clusterTok i)]

def resultAst (r : RResult) : Stmt := .node (.quoted (q r.str)) [A "label" (.html (resultBody r.ty r.name r.group))]

def clusterBody (i : Nat) (c : RCtor) : List Stmt :=
  (if c.pkg = [] then [] else [Stmt.assign (.bare "label".toList) (.quoted (q c.pkg))]) ++
  [Stmt.node (ctorTok i) [A "shape" (.bare "plaintext".toList), A "label" (.quoted (q c.name))]] ++
  (if c.err = 0 then [] else [Stmt.assign (.bare "color".toList) (.bare (colorName c.err).toList)]) ++
  c.results.map (resultAst q)

def ctorAst (i : Nat) (c : RCtor) : List Stmt :=
  Stmt.subgraph ("cluster_".toList ++ natDigits i) (clusterBody q i c) ::
  (c.params.map (paramAst q i) ++ c.gparams.map (gparamAst q i))

def ctorsAst : Nat → List RCtor → List Stmt
  | _, [] => []
  | i, c :: rest => ctorAst q i c ++ ctorsAst (i + 1) rest

def failedAst (color : String) (f : List Char) : Stmt := .node (.quoted (q f)) [A "color" (.bare color.toList)]

def graphAst (g : RGraph) : List Stmt :=
  [Stmt.assign (.bare "rankdir".toList) (.bare "RL".toList), Stmt.attrs "graph".toList [A "compound" (.bare "true".toList)]] ++
  g.groups.flatMap (groupAst q) ++ ctorsAst q 0 g.ctors ++ g.transitive.map (failedAst q "orange") ++
  g.roots.map (failedAst q "red")

end

/-! ### one token at a time -/

theorem run_nil (st : PState) : run st [] = some st := rfl
theorem run_cons (st : PState) (t : Tok) (rest : List Tok) : run st (t :: rest) = (step st t).bind fun st' => run st' rest := rfl

section steps
variable (s : List (List Char × List Stmt)) (c : List Stmt)

theorem step_start : step ⟨s, c, .start⟩ (.bare "digraph".toList) = some ⟨s, c, .open0⟩ := by
  simp [step]
theorem step_open0 : step ⟨s, c, .open0⟩ .lbrace = some ⟨s, c, .stmt⟩ := rfl
theorem step_stmt (t : Tok) : step ⟨s, c, .stmt⟩ t = stepStmt ⟨s, c, .stmt⟩ t := rfl
theorem step_kwSub (n : List Char) : step ⟨s, c, .kwSub⟩ (.bare n) = some ⟨s, c, .kwSubName n⟩ := rfl
theorem step_kwSubName (n : List Char) : step ⟨s, c, .kwSubName n⟩ .lbrace = some ⟨(n, c) :: s, [], .stmt⟩ := rfl
theorem step_afterKw (k : List Char) : step ⟨s, c, .afterKw k⟩ .lbrack = some ⟨s, c, .inAttr (.attrs k) []⟩ := rfl
theorem step_id1_eq (a : Tok) : step ⟨s, c, .id1 a⟩ .eq = some ⟨s, c, .assignV a⟩ := rfl
theorem step_id1_arrow (a : Tok) : step ⟨s, c, .id1 a⟩ .arrow = some ⟨s, c, .edge1 a⟩ := rfl
theorem step_id1_lbrack (a : Tok) : step ⟨s, c, .id1 a⟩ .lbrack = some ⟨s, c, .inAttr (.node a) []⟩ := rfl
theorem step_assignV (a : Tok) {t : Tok} (ht : t.isId = true) : step ⟨s, c, .assignV a⟩ t = some ⟨s, c ++ [.assign a t], .stmt⟩ :=
  if_pos ht
theorem step_assignV_bare (a : Tok) (x : List Char) : step ⟨s, c, .assignV a⟩ (.bare x) = some ⟨s, c ++ [.assign a (.bare x)], .stmt⟩ := rfl
theorem step_assignV_quoted (a : Tok) (x : List Char) : step ⟨s, c, .assignV a⟩ (.quoted x) = some ⟨s, c ++ [.assign a (.quoted x)], .stmt⟩ := rfl
theorem step_edge1 (a : Tok) {t : Tok} (ht : t.isId = true) : step ⟨s, c, .edge1 a⟩ t = some ⟨s, c, .afterHead (.edge a t) []⟩ :=
  if_pos ht
theorem step_edge1_quoted (a : Tok) (x : List Char) : step ⟨s, c, .edge1 a⟩ (.quoted x) = some ⟨s, c, .afterHead (.edge a (.quoted x)) []⟩ := rfl
theorem step_afterHead_lbrack (h : Head) (as : List Attr) : step ⟨s, c, .afterHead h as⟩ .lbrack = some ⟨s, c, .inAttr h as⟩ := rfl
theorem step_afterHead_semi (h : Head) (as : List Attr) : step ⟨s, c, .afterHead h as⟩ .semi = some ⟨s, c ++ [h.toStmt as], .stmt⟩ := rfl
theorem step_inAttr_rbrack (h : Head) (as : List Attr) : step ⟨s, c, .inAttr h as⟩ .rbrack = some ⟨s, c, .afterHead h as⟩ := rfl
theorem step_inAttr (h : Head) (as : List Attr) {t : Tok} (ht : t.isId = true) :
    step ⟨s, c, .inAttr h as⟩ t = some ⟨s, c, .attrEq h as t⟩ := by
  cases t <;> first | rfl | cases ht
theorem step_inAttr_bare (h : Head) (as : List Attr) (x : List Char) : step ⟨s, c, .inAttr h as⟩ (.bare x) = some ⟨s, c, .attrEq h as (.bare x)⟩ := rfl
theorem step_attrEq (h : Head) (as : List Attr) (k : Tok) : step ⟨s, c, .attrEq h as k⟩ .eq = some ⟨s, c, .attrVal h as k⟩ := rfl
theorem step_attrVal (h : Head) (as : List Attr) (k : Tok) {t : Tok} (ht : t.isId = true) :
    step ⟨s, c, .attrVal h as k⟩ t = some ⟨s, c, .inAttr h (as ++ [{ key := k, val := t }])⟩ :=
  if_pos ht
theorem step_attrVal_bare (h : Head) (as : List Attr) (k : Tok) (x : List Char) :
    step ⟨s, c, .attrVal h as k⟩ (.bare x) = some ⟨s, c, .inAttr h (as ++ [{ key := k, val := .bare x }])⟩ := rfl
theorem step_attrVal_quoted (h : Head) (as : List Attr) (k : Tok) (x : List Char) :
    step ⟨s, c, .attrVal h as k⟩ (.quoted x) = some ⟨s, c, .inAttr h (as ++ [{ key := k, val := .quoted x }])⟩ := rfl
theorem step_attrVal_html (h : Head) (as : List Attr) (k : Tok) (x : List Char) :
    step ⟨s, c, .attrVal h as k⟩ (.html x) = some ⟨s, c, .inAttr h (as ++ [{ key := k, val := .html x }])⟩ := rfl

theorem stepStmt_semi (m : Mode) : stepStmt ⟨s, c, m⟩ .semi = some ⟨s, c, m⟩ := rfl
theorem stepStmt_rbrace_nil (m : Mode) : stepStmt ⟨[], c, m⟩ .rbrace = some ⟨[], c, .done⟩ := rfl
theorem stepStmt_rbrace_cons (n : List Char) (o : List Stmt) (m : Mode) :
    stepStmt ⟨(n, o) :: s, c, m⟩ .rbrace = some ⟨s, o ++ [.subgraph n c], .stmt⟩ := rfl
theorem stepStmt_quoted (m : Mode) (x : List Char) : stepStmt ⟨s, c, m⟩ (.quoted x) = some ⟨s, c, .id1 (.quoted x)⟩ := rfl
theorem stepStmt_subgraph (m : Mode) : stepStmt ⟨s, c, m⟩ (.bare "subgraph".toList) = some ⟨s, c, .kwSub⟩ := by
  simp [stepStmt]
theorem stepStmt_kw (m : Mode) (x : List Char) (h1 : (x == "subgraph".toList) = false) (h2 : isKw x = true) :
    stepStmt ⟨s, c, m⟩ (.bare x) = some ⟨s, c, .afterKw x⟩ := by
  unfold stepStmt
  simp only [h1, h2, Bool.false_eq_true, if_false, if_true]
theorem stepStmt_id (m : Mode) (x : List Char) (h1 : (x == "subgraph".toList) = false) (h2 : isKw x = false) :
    stepStmt ⟨s, c, m⟩ (.bare x) = some ⟨s, c, .id1 (.bare x)⟩ := by
  unfold stepStmt
  simp only [h1, h2, Bool.false_eq_true, if_false]

end steps

/-! ### one statement at a time -/

def Plain (a : Tok) : Prop := ∀ s c, stepStmt ⟨s, c, .stmt⟩ a = some ⟨s, c, .id1 a⟩

theorem Plain.quoted (x : List Char) : Plain (.quoted x) := fun s c => stepStmt_quoted s c .stmt x

/-- the keywords begin with `s`, `g`, `n` or `e` -/
theorem Plain.bare {x : List Char} {ch : Char} (hx : x.head? = some ch)
    (h : ch ≠ 's' ∧ ch ≠ 'g' ∧ ch ≠ 'n' ∧ ch ≠ 'e') : Plain (.bare x) := by
  cases x with
  | nil => cases hx
  | cons d tl =>
    cases hx
    exact fun s c => stepStmt_id s c .stmt _ (by simp [h]) (by simp [isKw, h])

inductive AttrList : List Tok → List Attr → List Tok → Prop
  | nil {rest : List Tok} : AttrList (.rbrack :: .semi :: rest) [] rest
  | cons {k v : Tok} {ts : List Tok} {as : List Attr} {rest : List Tok} :
      k.isId = true → v.isId = true → AttrList ts as rest → AttrList (k :: .eq :: v :: ts) (⟨k, v⟩ :: as) rest

section stmts
variable (s : List (List Char × List Stmt)) (c : List Stmt) {a b k v : Tok} {ts rest : List Tok} {as : List Attr}

theorem run_attrList (hd : Head) : ∀ {ts : List Tok} {as : List Attr}, AttrList ts as rest → ∀ as0,
    run ⟨s, c, .inAttr hd as0⟩ ts = run ⟨s, c ++ [hd.toStmt (as0 ++ as)], .stmt⟩ rest
  | _, _, .nil, as0 => by
    simp only [run_cons, step_inAttr_rbrack, step_afterHead_semi, Option.bind_some, List.append_nil]
  | _, _, .cons (k := k) (v := v) (as := as) hk hv h, as0 => by
    rw [List.append_cons as0 ⟨k, v⟩ as, ← run_attrList hd h]
    simp only [run_cons, step_inAttr s c hd as0 hk, step_attrEq, step_attrVal s c hd as0 k hv, Option.bind_some]

theorem run_digraph : run {} (.bare "digraph".toList :: .lbrace :: rest) = run ⟨[], [], .stmt⟩ rest := by
  simp only [run_cons, step_start, step_open0, Option.bind_some]

theorem run_node (ha : Plain a) (h : AttrList ts as rest) :
    run ⟨s, c, .stmt⟩ (a :: .lbrack :: ts) = run ⟨s, c ++ [.node a as], .stmt⟩ rest := by
  simp only [run_cons, step_stmt, ha s c, step_id1_lbrack, Option.bind_some]
  exact run_attrList s c (.node a) h []

theorem run_edge (ha : Plain a) (hb : b.isId = true) (h : AttrList ts as rest) :
    run ⟨s, c, .stmt⟩ (a :: .arrow :: b :: .lbrack :: ts) = run ⟨s, c ++ [.edge a b as], .stmt⟩ rest := by
  simp only [run_cons, step_stmt, ha s c, step_id1_arrow, step_edge1 s c a hb, step_afterHead_lbrack, Option.bind_some]
  exact run_attrList s c (.edge a b) h []

theorem run_edge_semi (ha : Plain a) (hb : b.isId = true) :
    run ⟨s, c, .stmt⟩ (a :: .arrow :: b :: .semi :: rest) = run ⟨s, c ++ [.edge a b []], .stmt⟩ rest := by
  simp only [run_cons, step_stmt, ha s c, step_id1_arrow, step_edge1 s c a hb, step_afterHead_semi, Option.bind_some, Head.toStmt]

theorem run_assign (hk : Plain k) (hv : v.isId = true) :
    run ⟨s, c, .stmt⟩ (k :: .eq :: v :: .semi :: rest) = run ⟨s, c ++ [.assign k v], .stmt⟩ rest := by
  simp only [run_cons, step_stmt, hk s c, step_id1_eq, step_assignV s c k hv, stepStmt_semi, Option.bind_some]

theorem run_graphAttrs (h : AttrList ts as rest) :
    run ⟨s, c, .stmt⟩ (.bare "graph".toList :: .lbrack :: ts) = run ⟨s, c ++ [.attrs "graph".toList as], .stmt⟩ rest := by
  simp only [run_cons, step_stmt, stepStmt_kw s c .stmt "graph".toList (by decide) (by decide), step_afterKw, Option.bind_some]
  exact run_attrList s c (.attrs "graph".toList) h []

theorem run_subgraph (n : List Char) :
    run ⟨s, c, .stmt⟩ (.bare "subgraph".toList :: .bare n :: .lbrace :: rest) = run ⟨(n, c) :: s, [], .stmt⟩ rest := by
  simp only [run_cons, step_stmt, stepStmt_subgraph, step_kwSub, step_kwSubName, Option.bind_some]

theorem run_rbrace (n : List Char) (o : List Stmt) :
    run ⟨(n, o) :: s, c, .stmt⟩ (.rbrace :: rest) = run ⟨s, o ++ [.subgraph n c], .stmt⟩ rest := by
  simp only [run_cons, step_stmt, stepStmt_rbrace_cons, Option.bind_some]

end stmts

/-! ### running the parser over the fragments -/

def Reads (st : PState) (is : List Item) (st' : PState) : Prop := run st (toks is) = some st'

theorem Reads.append {st st' st'' : PState} {is js : List Item} (h : Reads st is st') (h' : Reads st' js st'') :
    Reads st (is ++ js) st'' := by
  unfold Reads at *
  rw [toks_append, run_append, h, Option.bind_some, h']

def Parses (is : List Item) (ss : List Stmt) : Prop :=
  ∀ stack cur, Reads ⟨stack, cur, .stmt⟩ is ⟨stack, cur ++ ss, .stmt⟩

theorem Parses.nil : Parses [] [] := fun stack cur => by rw [List.append_nil]; rfl

theorem Parses.append {is js : List Item} {ss ts : List Stmt} (h : Parses is ss) (h' : Parses js ts) :
    Parses (is ++ js) (ss ++ ts) := fun stack cur =>
  List.append_assoc cur ss ts ▸ (h stack cur).append (h' stack _)

theorem Parses.append_ws {is : List Item} {ss : List Stmt} {w : List Char} (h : Parses is ss) : Parses (is ++ [.ws w]) ss :=
  fun stack cur => (h stack cur).append rfl

theorem Parses.flatMap {α : Type} {f : α → List Item} {g : α → List Stmt} (h : ∀ x, Parses (f x) (g x)) :
    ∀ xs : List α, Parses (xs.flatMap f) (xs.flatMap g)
  | [] => .nil
  | x :: xs => by
    rw [List.flatMap_cons, List.flatMap_cons]
    exact (h x).append (Parses.flatMap h xs)

theorem Parses.map {α : Type} {f : α → List Item} {g : α → Stmt} (h : ∀ x, Parses (f x) [g x]) (xs : List α) :
    Parses (xs.flatMap f) (xs.map g) :=
  List.map_eq_flatMap ▸ Parses.flatMap h xs

theorem Parses.ite_nil {p : Prop} [Decidable p] {is : List Item} {ss : List Stmt} (h : Parses is ss) :
    Parses (if p then [] else is) (if p then [] else ss) := by
  split
  · exact .nil
  · exact h

section
variable (q : List Char → List Char)

theorem plain_ctor (i : Nat) : Plain (ctorTok i) := Plain.bare (ch := 'c') rfl (by decide)

theorem parse_result (r : RResult) : Parses (resultItems q r) [resultAst q r] := fun s c =>
  run_node s c (.quoted _) (.cons rfl rfl .nil)

theorem parse_gparam (i : Nat) (g : List Char) : Parses (gparamItems q i g) [gparamAst q i g] := fun s c =>
  run_edge s c (plain_ctor i) rfl (.cons rfl rfl .nil)

theorem parse_failed (color : String) (f : List Char) : Parses (failedItems q color f) [failedAst q color f] := fun s c =>
  run_node s c (.quoted _) (.cons rfl rfl .nil)

theorem parse_param (i : Nat) (p : RParam) : Parses (paramItems q i p) [paramAst q i p] := fun s c => by
  unfold paramItems paramAst
  cases p.optional
  · exact run_edge s c (plain_ctor i) rfl (.cons rfl rfl .nil)
  · exact run_edge s c (plain_ctor i) rfl (.cons rfl rfl (.cons rfl rfl .nil))

theorem parse_member (g r : List Char) :
    Parses [W "\t\t", Q q g, W " ", P .arrow, W " ", Q q r, P .semi, W "\n"] [.edge (.quoted (q g)) (.quoted (q r)) []] :=
  fun s c => run_edge_semi s c (.quoted _) rfl

theorem parse_group (g : RGroup) : Parses (groupItems q g) (groupAst q g) := by
  unfold groupItems groupAst
  refine .append_ws (.append (ss := [_]) (fun s c => ?_) (.map (parse_member q g.str) _))
  split
  · exact run_node s c (.quoted _) (.cons rfl rfl (.cons rfl rfl .nil))
  · exact run_node s c (.quoted _) (.cons rfl rfl (.cons rfl rfl (.cons rfl rfl .nil)))

theorem parse_ctor (i : Nat) (c : RCtor) : Parses (ctorItems q i c) (ctorAst q i c) := by
  unfold ctorItems ctorAst clusterBody
  refine .append (.append_ws (.append (ss := [_]) (fun s k => ?_) (.map (parse_param q i) _))) (.map (parse_gparam q i) _)
  have label : Parses [B "label", W " ", P .eq, W " ", Q q c.pkg, P .semi] _ := fun s k =>
    run_assign s k (Plain.bare (ch := 'l') rfl (by decide)) rfl
  have color : Parses [B "color", P .eq, B (colorName c.err), P .semi] _ := fun s k =>
    run_assign s k (Plain.bare (ch := 'c') rfl (by decide)) rfl
  exact Reads.append (Reads.append (Reads.append (Reads.append (Reads.append (Reads.append
    (run_subgraph s k _) (label.ite_nil _ _)) (run_node _ _ (plain_ctor i) (.cons rfl rfl (.cons rfl rfl .nil))))
    (color.ite_nil _ _)) rfl) (Parses.map (parse_result q) _ _ _)) (run_rbrace _ _ _ _)

theorem parse_ctors : ∀ (cs : List RCtor) (i : Nat), Parses (ctorsItems q i cs) (ctorsAst q i cs)
  | [], _ => .nil
  | c :: cs, i => (parse_ctor q i c).append (parse_ctors cs (i + 1))

theorem parse_header : Reads {} header
    ⟨[], [.assign (.bare "rankdir".toList) (.bare "RL".toList), .attrs "graph".toList [A "compound" (.bare "true".toList)]], .stmt⟩ :=
  run_digraph.trans <| (run_assign _ _ (Plain.bare (ch := 'r') rfl (by decide)) rfl).trans <|
    run_graphAttrs _ _ (.cons rfl rfl .nil)

theorem parse_render (g : RGraph) : parseDot (toks (graphItems q g)) = some (graphAst q g) := by
  have h : Reads {} (graphItems q g) ⟨[], graphAst q g, .done⟩ :=
    Reads.append (Reads.append (Reads.append (Reads.append (Reads.append (Reads.append parse_header
      (Parses.flatMap (parse_group q) _ _ _)) rfl) (parse_ctors q _ _ _ _)) (Parses.map (parse_failed q _) _ _ _))
      (Parses.map (parse_failed q _) _ _ _)) rfl
  rw [parseDot, h]

end

end Dig.DotRender
