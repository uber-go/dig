import DigModel.Proofs.ApiLemmas
/-
  The shape of the event log.  User functions are leaves: dig builds all arguments of a function before it
  enters it, so executions never nest in the log, and a callback event can only appear directly behind the
  exit event of the execution it reports.  Every resolver call appends a sequence of *blocks*:

      enter w f x args · exit w f x r               a node's function ran (no callback registered)
      enter w f x args · exit w f x r · cb op w f   … with its callback
      cb op w f                                     DryRun: the function is skipped, the callback is not

  where `w` is a constructor or decorator node, never the invoked function.
-/
namespace Dig

inductive Block (dry : Bool) : List Event → Prop
  | body (w : Who) (f x : Nat) (args : List Val) (r : ExitKind) : w ≠ .invoked → dry = false →
      Block dry [.enter w f x args, .exit w f x r]
  | bodyCb (w : Who) (f x : Nat) (args : List Val) (r : ExitKind) (op : Nat) (err : Option DErr) (rt : Nat) :
      w ≠ .invoked → dry = false → Block dry [.enter w f x args, .exit w f x r, .cb op w f err rt]
  | cbOnly (op : Nat) (w : Who) (f : Nat) (err : Option DErr) (rt : Nat) : w ≠ .invoked → dry = true →
      Block dry [.cb op w f err rt]

inductive Blocks (dry : Bool) : List Event → Prop
  | nil : Blocks dry []
  | cons {b l : List Event} : Block dry b → Blocks dry l → Blocks dry (b ++ l)

theorem Blocks.append {dry : Bool} {l1 l2 : List Event} (h1 : Blocks dry l1) (h2 : Blocks dry l2) :
    Blocks dry (l1 ++ l2) := by
  induction h1 with
  | nil => simpa using h2
  | cons hb _ ih => rw [List.append_assoc]; exact Blocks.cons hb ih

theorem Blocks.single {dry : Bool} {b : List Event} (h : Block dry b) : Blocks dry b := by
  have := Blocks.cons h Blocks.nil
  simpa using this

def Shape (dry : Bool) (a b : St) : Prop := ∃ l, b.log = a.log ++ l ∧ b.hist = a.hist ++ l ∧ Blocks dry l

theorem Shape.refl (dry : Bool) (a : St) : Shape dry a a := ⟨[], by simp, by simp, Blocks.nil⟩

theorem Shape.trans {dry : Bool} {a b c : St} (h1 : Shape dry a b) (h2 : Shape dry b c) : Shape dry a c := by
  obtain ⟨l1, e1, g1, p1⟩ := h1
  obtain ⟨l2, e2, g2, p2⟩ := h2
  exact ⟨l1 ++ l2, by rw [e2, e1, List.append_assoc], by rw [g2, g1, List.append_assoc], p1.append p2⟩

theorem shape_of_eq {dry : Bool} (a b : St) (h1 : b.log = a.log) (h2 : b.hist = a.hist) : Shape dry a b :=
  ⟨[], by simp [h1], by simp [h2], Blocks.nil⟩

theorem shape_tail {dry : Bool} (w : Who) (hw : w ≠ .invoked) (f : Nat) (a b : St) (lb lc : List Event)
    (hh : b.hist = a.hist ++ (lb ++ lc)) (hl : b.log = a.log ++ (lb ++ lc))
    (hb : (dry = true ∧ lb = []) ∨ (dry = false ∧ ∃ x args r, lb = [.enter w f x args, .exit w f x r]))
    (hc : lc = [] ∨ ∃ op err rt, lc = [.cb op w f err rt]) : Shape dry a b := by
  refine ⟨lb ++ lc, hl, hh, ?_⟩
  rcases hb with ⟨hd, rfl⟩ | ⟨hd, x, args, r, rfl⟩
  · rcases hc with rfl | ⟨op, err, rt, rfl⟩
    · exact Blocks.nil
    · exact Blocks.single (Block.cbOnly op w f err rt hw hd)
  · rcases hc with rfl | ⟨op, err, rt, rfl⟩
    · simpa using Blocks.single (Block.body w f x args r hw hd)
    · exact Blocks.single (Block.bodyCb w f x args r op err rt hw hd)

theorem shape_leaf (ctx : Ctx) : LeafRel ctx (Shape ctx.cfg.dry) where
  refl := Shape.refl _
  trans := Shape.trans
  setOnStack st n := shape_of_eq _ _ rfl rfl
  clearOnStack st n := shape_of_eq _ _ rfl rfl
  decoOnStack st d := shape_of_eq _ _ rfl rfl
  decoFinally st d := shape_of_eq _ _ rfl rfl
  ctorTail st n node args := by
    obtain ⟨lb, lc, hh, hl, hb, hc⟩ := ctorTail_log ctx n node args st
    exact shape_tail (.ctor n) nofun node.fn.id st _ lb lc hh hl (hb.imp_right fun ⟨hd, e⟩ => ⟨hd, _, _, _, e⟩) hc
  decoTail st d node args := by
    obtain ⟨lb, lc, hh, hl, hb, hc⟩ := decoTail_log ctx d node args st
    exact shape_tail (.deco d) nofun node.fn.id st _ lb lc hh hl (hb.imp_right fun ⟨hd, e⟩ => ⟨hd, _, _, _, e⟩) hc

theorem buildList_shape (ctx : Ctx) (fuel : Nat) (ps : List Param) (c : Nat) (st : St) :
    Shape ctx.cfg.dry st (buildList ctx fuel ps c st).2 :=
  (engine_pres ctx (shape_leaf ctx) fuel).2.2.2.2.2 ps c st

theorem invokeRun_ev (ctx : Ctx) (fn : Fn) (params : List Param) (s : Nat) (info : Bool) (w : St) :
    (invokeRun ctx fn params s info w).2.ev = (invokeRun ctx fn params s info w).1.log := by
  unfold invokeRun
  split <;> rfl

theorem invoke_log_nil {env : TyEnv} {fn : Fn} {st w w3 : St} {s : Nat} {params : List Param} (hlog : st.log = [])
    (hpp : parseParams env st s fn = (.ok params, w)) (hck : invokeCheck w s = .ok w3) : w3.log = [] := by
  have hp := parseParams_log env st s fn
  rw [hpp] at hp
  rcases invokeCheck_ok hck with e | ⟨_, e⟩ <;> rw [e] <;> exact hp.trans hlog

theorem invokeCheck_error_ne_ok {w : St} {s : Nat} {v : Verdict} (h : invokeCheck w s = .error v) : v ≠ .ok := by
  unfold invokeCheck at h
  split at h
  · cases h
  · split at h <;> cases h <;> nofun

theorem failToVerdict_ne_ok (f : Fail) : failToVerdict f ≠ .ok := by
  cases f <;> nofun

/-- what an Invoke reports: blocks of the constructors and decorators it ran, then — only if all arguments
    were built — the two events of the invoked function (none in a DryRun container) -/
theorem apiInvoke_shape (ctx : Ctx) (fn : Fn) (st : St) (s : Nat) (info : Bool) (hlog : st.log = []) :
    ∃ l t, (apiInvoke ctx fn st s info).2.ev = l ++ t ∧ Blocks ctx.cfg.dry l ∧
      (t = [] ∨ (ctx.cfg.dry = false ∧ ∃ x args r, t = [.enter .invoked fn.id x args, .exit .invoked fn.id x r])) ∧
      ((apiInvoke ctx fn st s info).2.v = .ok → ctx.cfg.dry = false → t ≠ []) := by
  -- an Invoke that does not get to the resolver fails and reports nothing
  have hnil : ∀ (w : St) (v : Verdict), v ≠ .ok → ∃ l t, (w, ({ v := v } : OpRes)).2.ev = l ++ t ∧ Blocks ctx.cfg.dry l ∧
      (t = [] ∨ (ctx.cfg.dry = false ∧ ∃ x args r, t = [.enter .invoked fn.id x args, .exit .invoked fn.id x r])) ∧
      ((w, ({ v := v } : OpRes)).2.v = .ok → ctx.cfg.dry = false → t ≠ []) :=
    fun _ _ hv => ⟨[], [], rfl, Blocks.nil, Or.inl rfl, fun h => absurd h hv⟩
  refine apiInvoke_cases (P := fun r => ∃ l t, r.2.ev = l ++ t ∧ Blocks ctx.cfg.dry l ∧
      (t = [] ∨ (ctx.cfg.dry = false ∧ ∃ x args r, t = [.enter .invoked fn.id x args, .exit .invoked fn.id x r])) ∧
      (r.2.v = .ok → ctx.cfg.dry = false → t ≠ []))
    (fun _ _ => hnil _ _ nofun) (fun _ _ _ _ => hnil _ _ nofun) (fun _ _ _ _ _ _ _ => hnil _ _ nofun)
    (fun _ _ _ _ _ _ hck => hnil _ _ (invokeCheck_error_ne_ok hck)) ?_
  intro _ params w w3 hpp _ hck
  have hb := buildList_shape ctx (engineFuel w3 params) params s w3
  unfold invokeRun
  rw [← wrapErr_state _ DErr.argsFailed] at hb
  cases hbl : EM.wrapErr (buildList ctx (engineFuel w3 params) params s) DErr.argsFailed w3 with
  | mk r4 w4 =>
    rw [hbl] at hb
    obtain ⟨l, hl, _, hbk⟩ := hb
    simp only at hl
    rw [invoke_log_nil hlog hpp hck, List.nil_append] at hl
    cases r4 with
    | error f => exact ⟨l, [], by simp [hl], hbk, Or.inl rfl, fun h => absurd h (failToVerdict_ne_ok f)⟩
    | ok args =>
      simp only
      by_cases hd : ctx.cfg.dry = true
      · rw [callBody_dry ctx hd]
        exact ⟨l, [], by simp [hl], hbk, Or.inl rfl, fun _ h => by rw [hd] at h; cases h⟩
      · have hnd : ctx.cfg.dry = false := by simpa using hd
        rw [callBody_spec ctx hnd]
        refine ⟨l, bodyEvents ctx .invoked fn args w4, ?_, hbk, Or.inr ⟨hnd, _, _, _, rfl⟩, ?_⟩
        · simp [afterBody, hl]
        · intro _ _ h; cases h

def Event.who : Event → Who
  | .enter w _ _ _ => w
  | .exit w _ _ _ => w
  | .cb _ w _ _ _ => w

theorem Block.who {dry : Bool} {b : List Event} (h : Block dry b) : ∀ e ∈ b, e.who ≠ .invoked := by
  cases h with
  | body w f x args r hw _ => intro e he; simp at he; rcases he with rfl | rfl <;> exact hw
  | bodyCb w f x args r op err rt hw _ => intro e he; simp at he; rcases he with rfl | rfl | rfl <;> exact hw
  | cbOnly op w f err rt hw _ => intro e he; simp at he; subst he; exact hw

theorem Blocks.who {dry : Bool} {l : List Event} (h : Blocks dry l) : ∀ e ∈ l, e.who ≠ .invoked := by
  induction h with
  | nil => intro e he; cases he
  | cons hb _ ih =>
    intro e he
    rcases List.mem_append.mp he with h | h
    · exact hb.who e h
    · exact ih e h

def NoNesting (l : List Event) : Prop :=
  ∀ i w f x args, l[i]? = some (.enter w f x args) → ∃ r, l[i + 1]? = some (.exit w f x r)

def CbBehindExit (l : List Event) : Prop :=
  ∀ i op w f err rt, l[i]? = some (.cb op w f err rt) → ∃ x r, 0 < i ∧ l[i - 1]? = some (.exit w f x r)

theorem NoNesting.nil : NoNesting [] := fun _ _ _ _ _ hi => nomatch hi

theorem NoNesting.cons {l : List Event} (h : NoNesting l) (e : Event) (he : ∀ w f x args, e ≠ .enter w f x args) :
    NoNesting (e :: l) := fun i w f x args hi =>
  match i with
  | 0 => absurd (Option.some.inj hi) (he w f x args)
  | i + 1 => h i w f x args hi

theorem NoNesting.enter_exit {l : List Event} (h : NoNesting l) (w : Who) (f x : Nat) (args : List Val) (r : ExitKind) :
    NoNesting (.enter w f x args :: .exit w f x r :: l) := fun i w' f' x' args' hi =>
  match i with
  | 0 => by cases hi; exact ⟨r, rfl⟩
  | 1 => nomatch hi
  | i + 2 => h i w' f' x' args' hi

theorem CbBehindExit.nil : CbBehindExit [] := fun _ _ _ _ _ _ hi => nomatch hi

theorem CbBehindExit.cons {l : List Event} (h : CbBehindExit l) (e : Event) (he : ∀ op w f err rt, e ≠ .cb op w f err rt) :
    CbBehindExit (e :: l) := fun i op w f err rt hi =>
  match i with
  | 0 => absurd (Option.some.inj hi) (he op w f err rt)
  | i + 1 =>
    match i, h i op w f err rt hi with
    | _ + 1, ⟨x, r, _, hp⟩ => ⟨x, r, Nat.succ_pos _, hp⟩

theorem CbBehindExit.exit_cb {l : List Event} (h : CbBehindExit l) (w : Who) (f x : Nat) (r : ExitKind) (op : Nat)
    (err : Option DErr) (rt : Nat) : CbBehindExit (.exit w f x r :: .cb op w f err rt :: l) := fun i op' w' f' err' rt' hi =>
  match i with
  | 0 => nomatch hi
  | 1 => by cases hi; exact ⟨x, r, Nat.one_pos, rfl⟩
  | i + 2 =>
    match i, h i op' w' f' err' rt' hi with
    | _ + 1, ⟨x', r', _, hp⟩ => ⟨x', r', Nat.succ_pos _, hp⟩

theorem Block.noNesting {dry : Bool} {b l : List Event} (hb : Block dry b) (h : NoNesting l) : NoNesting (b ++ l) := by
  cases hb with
  | body w f x args r => exact h.enter_exit w f x args r
  | bodyCb w f x args r op err rt => exact (h.cons (.cb op w f err rt) fun _ _ _ _ e => nomatch e).enter_exit w f x args r
  | cbOnly op w f err rt => exact h.cons (.cb op w f err rt) fun _ _ _ _ e => nomatch e

theorem Block.cbBehindExit {b l : List Event} (hb : Block false b) (h : CbBehindExit l) : CbBehindExit (b ++ l) := by
  cases hb with
  | body w f x args r => exact (h.cons (.exit w f x r) fun _ _ _ _ _ e => nomatch e).cons (.enter w f x args) fun _ _ _ _ _ e => nomatch e
  | bodyCb w f x args r op err rt => exact (h.exit_cb w f x r op err rt).cons (.enter w f x args) fun _ _ _ _ _ e => nomatch e
  | cbOnly _ _ _ _ _ _ hd => cases hd

theorem Blocks.noNesting_append {dry : Bool} {l t : List Event} (h : Blocks dry l) (ht : NoNesting t) :
    NoNesting (l ++ t) := by
  induction h with
  | nil => exact ht
  | cons hb _ ih => rw [List.append_assoc]; exact hb.noNesting ih

theorem Blocks.cbBehindExit_append {l t : List Event} (h : Blocks false l) (ht : CbBehindExit t) :
    CbBehindExit (l ++ t) := by
  induction h with
  | nil => exact ht
  | cons hb _ ih => rw [List.append_assoc]; exact hb.cbBehindExit ih

end Dig
