import DigModel.Proofs.ValErr
import DigModel.Proofs.EngineRel2
import DigModel.Proofs.ProvApi
import DigModel.Proofs.NoBugApi
import DigModel.Proofs.JustApi
import DigModel.Proofs.Just2Api
import DigModel.Proofs.DecoCommute
/-
  Whole programs: a function with a value-typed error result never has a successful exit in the history, hence
  (with `Prov`) nothing it returned is ever handed to anyone.
-/
namespace Dig

structure VE (fns : List Fn) (f : Nat) (st : St) : Prop where
  ctors : ∀ n, n < st.ctors.length → (st.ctor n).fn ∈ fns
  decos : ∀ d, d < st.decos.length → (st.deco d).fn ∈ fns
  nook : ∀ w x, Event.exit w f x .ok ∉ st.hist

theorem VE.ext {fns : List Fn} {f : Nat} {a b : St} (h : VE fns f a) (hreg : RegFrame a b) (l : List Event)
    (hl : b.hist = a.hist ++ l) (hno : ∀ w x, Event.exit w f x .ok ∉ l) : VE fns f b where
  ctors n hn := by
    have := h.ctors n (by rw [hreg.ctorsLen]; exact hn)
    rw [← (hreg.ctorStatic n).fn]; exact this
  decos d hd := by
    have := h.decos d (by rw [hreg.decosLen]; exact hd)
    rw [← (hreg.decoStatic d).fn]; exact this
  nook w x hm := by
    rw [hl] at hm
    rcases List.mem_append.mp hm with h1 | h1
    · exact h.nook w x h1
    · exact hno w x h1

theorem VE.transfer {fns : List Fn} {f : Nat} {a b : St} (h : VE fns f a) (hreg : RegFrame a b) (hh : b.hist = a.hist) :
    VE fns f b :=
  h.ext hreg [] (by simp [hh]) (fun _ _ hm => by cases hm)

def VR (fns : List Fn) (f : Nat) (a b : St) : Prop := RegFrame a b ∧ (VE fns f a → VE fns f b)

section
variable (p : Program) (fn : Fn) (hmem : fn ∈ p.fns) (huniq : ∀ g ∈ p.fns, g.id = fn.id → g = fn)
  (hv : (forcedOf p.types fn).isSome = true) (hid : fn.id ≠ 0) (hnd : p.cfg.dry = false)
include hmem huniq hv hid

theorem bodyEvents_nook (who : Who) (g : Fn) (hg : g ∈ p.fns ∨ g.id = 0) (args : List Val) (st : St) (w : Who) (x : Nat) :
    Event.exit w fn.id x .ok ∉ bodyEvents p.ctx who g args st := by
  intro hm
  unfold bodyEvents at hm
  simp only [List.mem_cons, List.mem_nil_iff, or_false] at hm
  rcases hm with hm | hm
  · cases hm
  · simp only [Event.exit.injEq] at hm
    obtain ⟨_, hfid, _, hk⟩ := hm
    rcases hg with hg | hg
    · have : g = fn := huniq g hg hfid.symm
      subst this
      exact (valErr_never_ok p g hmem huniq hv st).2 hk.symm
    · exact hid (hfid.trans hg)

theorem VE.ctorTail {st : St} (h : VE p.fns fn.id st) (n : Nat) (node : CtorNode) (args : List Val)
    (hst : CtorStatic node (st.ctor n)) : VE p.fns fn.id (Dig.ctorTail p.ctx n node args st).2 := by
  obtain ⟨lb, lc, hh, _, hlb, hlc⟩ := ctorTail_log p.ctx n node args st
  refine h.ext (regFrame_ctorTail p.ctx st n node args) (lb ++ lc) hh ?_
  intro w x hm
  rcases List.mem_append.mp hm with h1 | h1
  · rcases hlb with ⟨_, rfl⟩ | ⟨_, rfl⟩
    · cases h1
    · have hg : node.fn ∈ p.fns ∨ node.fn.id = 0 := by
        by_cases hn : n < st.ctors.length
        · left; rw [hst.1]; exact h.ctors n hn
        · right; rw [hst.1, ctor_default st n (by omega)]; rfl
      exact bodyEvents_nook p fn hmem huniq hv hid _ node.fn hg args st w x h1
  · rcases hlc with rfl | ⟨op, err, rt, rfl⟩
    · cases h1
    · simp at h1

theorem VE.decoTail {st : St} (h : VE p.fns fn.id st) (d : Nat) (node : DecoNode) (args : List Val)
    (hst : DecoStatic node (st.deco d)) : VE p.fns fn.id (Dig.decoTail p.ctx d node args st).2 := by
  obtain ⟨lb, lc, hh, _, hlb, hlc⟩ := decoTail_log p.ctx d node args st
  refine h.ext (regFrame_decoTail p.ctx st d node args) (lb ++ lc) hh ?_
  intro w x hm
  rcases List.mem_append.mp hm with h1 | h1
  · rcases hlb with ⟨_, rfl⟩ | ⟨_, rfl⟩
    · cases h1
    · have hg : node.fn ∈ p.fns ∨ node.fn.id = 0 := by
        by_cases hn : d < st.decos.length
        · left; rw [hst.1]; exact h.decos d hn
        · right; rw [hst.1, deco_default st d (by omega)]; rfl
      exact bodyEvents_nook p fn hmem huniq hv hid _ node.fn hg args st w x h1
  · rcases hlc with rfl | ⟨op, err, rt, rfl⟩
    · cases h1
    · simp at h1

/-- `VR` is `InvRel (VE …)` without the history and the built marks -/
theorem vr_leaf : LeafRel2 p.ctx (VR p.fns fn.id) :=
  have H : LeafRel2 p.ctx (InvRel (VE p.fns fn.id)) :=
    invRel_leaf p.ctx (fun _ _ hf h => h.transfer hf.reg hf.hist)
      (fun _ n node args hst h => VE.ctorTail p fn hmem huniq hv hid h n node args hst)
      fun _ d node args hst h => VE.decoTail p fn hmem huniq hv hid h d node args hst
  have frame : ∀ {a b}, InvRel (VE p.fns fn.id) a b → VR p.fns fn.id a b := fun h => ⟨h.reg, h.inv⟩
  { refl := fun s => frame (H.refl s)
    trans := fun h1 h2 => ⟨h1.1.trans h2.1, fun h => h2.2 (h1.2 h)⟩
    toReg := fun h => h.1
    setOnStack := fun st n => frame (H.setOnStack st n)
    clearOnStack := fun st n => frame (H.clearOnStack st n)
    ctorTail := fun st n node args hst => frame (H.ctorTail st n node args hst)
    decoOnStack := fun st d => frame (H.decoOnStack st d)
    decoFinally := fun st d => frame (H.decoFinally st d)
    decoTail := fun st d node args hst => frame (H.decoTail st d node args hst) }

theorem VE.buildList {st : St} (h : VE p.fns fn.id st) (fuel : Nat) (ps : List Param) (c : Nat) :
    VE p.fns fn.id (buildList p.ctx fuel ps c st).2 :=
  ((engine_pres2 p.ctx (vr_leaf p fn hmem huniq hv hid) fuel).2.2.2.2.2 ps c st).2 h

end

theorem VE.same {fns : List Fn} {f : Nat} {a b : St} (h : VE fns f a) (hc : b.ctors = a.ctors) (hd : b.decos = a.decos)
    (hh : b.hist = a.hist) : VE fns f b where
  ctors n hn := by
    have : b.ctor n = a.ctor n := ctor_of_ctors_eq hc _
    rw [this]; exact h.ctors n (by rw [← hc]; exact hn)
  decos d hd' := by
    have : b.deco d = a.deco d := deco_of_decos_eq hd _
    rw [this]; exact h.decos d (by rw [← hd]; exact hd')
  nook w x hm := h.nook w x (by rw [← hh]; exact hm)

theorem fnOf_mem (fns : List Fn) (f : Nat) (g : Fn) (h : fnOf fns f = some g) : g ∈ fns :=
  List.mem_of_find?_eq_some h

theorem VE.provide {fns : List Fn} {f : Nat} {st : St} (h : VE fns f st) (ctx : Ctx) (g : Fn) (hg : g ∈ fns)
    (i s : Nat) (o : ProvideOpts) : VE fns f (apiProvide ctx g st i s o).1 := by
  have hh : (apiProvide ctx g st i s o).1.hist = st.hist := (cacheSame_apiProvide ctx g st i s o).1
  rcases apiProvide_reg2 ctx g st i s o with he | ⟨results, keys, ha⟩
  · exact h.same he.ctors.symm he.decos.symm hh
  · refine ⟨?_, ?_, fun w x hm => h.nook w x (by rw [← hh]; exact hm)⟩
    · intro n hn
      rw [ha.len] at hn
      rcases Nat.lt_succ_iff_lt_or_eq.mp hn with hlt | rfl
      · rw [ha.pre n hlt]; exact h.ctors n hlt
      · rw [ha.newfn]; exact hg
    · intro d hd
      have : (apiProvide ctx g st i s o).1.deco d = st.deco d := deco_of_decos_eq ha.decos _
      rw [this]; exact h.decos d (by rw [← ha.decos]; exact hd)

theorem VE.decorate {fns : List Fn} {f : Nat} {st : St} (h : VE fns f st) (ctx : Ctx) (g : Fn) (hg : g ∈ fns)
    (i s : Nat) (cb info : Bool) : VE fns f (apiDecorate ctx g st i s cb info).1 := by
  have hh : (apiDecorate ctx g st i s cb info).1.hist = st.hist := (cacheSame_apiDecorate ctx g st i s cb info).1
  rcases apiDecorate_reg ctx g st i s cb info with he | ha
  · rw [he]; exact h
  · refine ⟨?_, ?_, fun w x hm => h.nook w x (by rw [← hh]; exact hm)⟩
    · intro n hn
      have : (apiDecorate ctx g st i s cb info).1.ctor n = st.ctor n := ctor_of_ctors_eq ha.ctors _
      rw [this]; exact h.ctors n (by rw [← ha.ctors]; exact hn)
    · intro d hd
      rw [ha.len] at hd
      rcases Nat.lt_succ_iff_lt_or_eq.mp hd with hlt | rfl
      · rw [ha.pre d hlt]; exact h.decos d hlt
      · rw [ha.newfn]; exact hg

theorem VE.scope {fns : List Fn} {f : Nat} {st : St} (h : VE fns f st) (parent : Nat) : VE fns f (apiScope st parent) := by
  have hh : (apiScope st parent).hist = st.hist := (cacheSame_apiScope st parent).1
  refine ⟨?_, ?_, fun w x hm => h.nook w x (by rw [← hh]; exact hm)⟩
  · intro n hn
    rw [apiScope_ctorsLen] at hn
    rw [(ctorsKeep_apiScope st parent n hn).2.1]; exact h.ctors n hn
  · intro d hd
    have hd0 := (apiScope_decos st parent).1
    have : (apiScope st parent).deco d = st.deco d := deco_of_decos_eq hd0 _
    rw [this]; exact h.decos d (by rw [← hd0]; exact hd)

section
variable (p : Program) (fn : Fn) (hmem : fn ∈ p.fns) (huniq : ∀ g ∈ p.fns, g.id = fn.id → g = fn)
  (hv : (forcedOf p.types fn).isSome = true) (hid : fn.id ≠ 0)
include hmem huniq hv hid

theorem VE.callBody {st : St} (h : VE p.fns fn.id st) (who : Who) (g : Fn) (hg : g ∈ p.fns) (args : List Val) :
    VE p.fns fn.id (Dig.callBody p.ctx who g args st).2 := by
  have hreg := regFrame_callBody p.ctx who g args st
  by_cases hd : p.ctx.cfg.dry = true
  · rw [callBody_dry p.ctx hd]; exact h
  · have hnd : p.ctx.cfg.dry = false := by simpa using hd
    rw [callBody_spec p.ctx hnd] at hreg ⊢
    exact h.ext hreg (bodyEvents p.ctx who g args st) rfl
      (fun w x => bodyEvents_nook p fn hmem huniq hv hid who g (Or.inl hg) args st w x)

theorem VE.invoke {st : St} (h : VE p.fns fn.id st) (g : Fn) (hg : g ∈ p.fns) (s : Nat) (info : Bool) :
    VE p.fns fn.id (apiInvoke p.ctx g st s info).1 := by
  have hgo := ghOnly_parseParams p.ctx.env st s g
  exact apiInvoke_inv h (h.same hgo.1.symm hgo.2.1.symm hgo.2.2.1.symm)
    (fun w hw _ => hw.same rfl rfl rfl) (fun params w hw => VE.buildList p fn hmem huniq hv hid hw _ params s)
    fun _ _ args w4 _ _ h4 => VE.callBody p fn hmem huniq hv hid h4 .invoked g hg args

theorem VE.stepInv : StepInv p.ctx p.fns (VE p.fns fn.id) where
  reset _ h := h.same rfl rfl rfl
  scope _ q h _ _ := h.scope q
  provide _ i s _ g o h _ hg _ := h.provide p.ctx g (fnOf_mem _ _ _ hg) i s o
  decorate _ i s _ g cb info h _ hg _ := h.decorate p.ctx g (fnOf_mem _ _ _ hg) i s cb info
  invoke _ s _ g info h _ hg _ := VE.invoke p fn hmem huniq hv hid h g (fnOf_mem _ _ _ hg) s info

theorem ve_program : VE p.fns fn.id (runProgram p).1 :=
  runOps_inv (VE.stepInv p fn hmem huniq hv hid) p.ops 0 {} []
    ⟨fun n hn => by simp at hn, fun d hd => by simp at hd, fun w x hm => by simp at hm⟩

end
end Dig
