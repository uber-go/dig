import DigModel.Proofs.Body
import DigModel.Proofs.Scopes
import DigModel.Proofs.Extract
/-
  Rewriting every scope of a container by a function that leaves the caches alone commutes with the steps in
  which the resolver writes: the on-stack marks, running a node's function, committing its results, the callback.
-/
namespace Dig

/-- `u` neither reads nor writes the four caches of a scope: it commutes with every update of one of them -/
structure CacheBlind (u : ScopeSt → ScopeSt) : Prop where
  values : ∀ x (g : List (Key × Val) → List (Key × Val)),
    u { x with values := g x.values } = { u x with values := g (u x).values }
  groups : ∀ x (g : List (Key × List Val) → List (Key × List Val)),
    u { x with groups := g x.groups } = { u x with groups := g (u x).groups }
  dvalues : ∀ x (g : List (Key × Val) → List (Key × Val)),
    u { x with decoratedValues := g x.decoratedValues } = { u x with decoratedValues := g (u x).decoratedValues }
  dgroups : ∀ x (g : List (Key × Val) → List (Key × Val)),
    u { x with decoratedGroups := g x.decoratedGroups } = { u x with decoratedGroups := g (u x).decoratedGroups }

section
variable {u : ScopeSt → ScopeSt} (hu : CacheBlind u)
include hu

theorem extractSlots_blind (env : TyEnv) (deco : Bool) (r : Ret) (slots : List RSlot) (sc : ScopeSt) :
    extractSlots env deco r (u sc) slots = u (extractSlots env deco r sc slots) := by
  refine extractSlots_rel env deco r r slots (fun a b => a = u b) (u sc) sc (fun a b w _ h => ?_) rfl
  cases h
  cases w with
  | val k slot decl => exact (hu.values b fun m => aset m k _).symm
  | grp k slot decl fl => exact (hu.groups b fun m => submitAll m k _).symm
  | dval k slot decl => exact (hu.dvalues b fun m => aset m k _).symm
  | dgrp k slot decl => exact (hu.dgroups b fun m => aset m k _).symm

end

def St.mapScopes (u : Nat → ScopeSt → ScopeSt) (st : St) : St := { st with scopes := st.scopes.mapIdx u }

section
variable (u : Nat → ScopeSt → ScopeSt)

theorem mapScopes_len (st : St) : (st.mapScopes u).scopes.length = st.scopes.length := List.length_mapIdx

theorem mapScopes_scope (st : St) (j : Nat) :
    (st.mapScopes u).scope j = if j < st.scopes.length then u j (st.scope j) else st.scope j := by
  unfold St.scope St.mapScopes
  simp only [List.getD_eq_getElem?_getD, List.getElem?_mapIdx]
  by_cases hj : j < st.scopes.length
  · simp only [hj, List.getElem?_eq_getElem, Option.map_some, Option.getD_some, if_true]
  · simp only [hj, List.getElem?_eq_none (Nat.le_of_not_lt hj), Option.map_none, if_false]

theorem mapScopes_read {α : Type} (r : ScopeSt → α) (hr : ∀ j x, r (u j x) = r x) (st : St) (j : Nat) :
    r ((st.mapScopes u).scope j) = r (st.scope j) := by
  rw [mapScopes_scope]
  split
  · exact hr j _
  · rfl

theorem mapScopes_modScope (st : St) (s : Nat) (f : ScopeSt → ScopeSt) (hf : ∀ x, f (u s x) = u s (f x)) :
    (st.mapScopes u).modScope s f = (st.modScope s f).mapScopes u := by
  unfold St.modScope St.mapScopes
  simp only
  congr 1
  apply List.ext_getElem?
  intro j
  simp only [List.getElem?_modify, List.getElem?_mapIdx]
  cases st.scopes[j]? with
  | none => rfl
  | some x =>
    by_cases h : s = j
    · subst h
      simp only [Option.map_some, if_true]
      exact congrArg some (hf x)
    · simp only [Option.map_some, h, if_false]
      rfl

theorem mapScopes_ancestors (hp : ∀ j x, (u j x).parent = x.parent) (st : St) (c : Nat) :
    (st.mapScopes u).ancestors c = st.ancestors c := by
  unfold St.ancestors
  rw [mapScopes_len]
  exact ancestorsAux_congr _ _ (mapScopes_len u st) (mapScopes_read u (·.parent) hp st) _ _

theorem mapScopes_bumpExec (st : St) (f : Nat) : (st.mapScopes u).bumpExec f = (st.bumpExec f).mapScopes u := by
  unfold St.bumpExec
  show (if st.execs.any _ = true then _ else _) = _
  split <;> rfl

theorem mapScopes_callBody (ctx : Ctx) (who : Who) (fn : Fn) (args : List Val) (st : St) :
    callBody ctx who fn args (st.mapScopes u) =
      ((callBody ctx who fn args st).1, (callBody ctx who fn args st).2.mapScopes u) := by
  by_cases hd : ctx.cfg.dry = true
  · rw [callBody_dry ctx hd, callBody_dry ctx hd]
  · have hnd : ctx.cfg.dry = false := by simpa using hd
    rw [callBody_spec ctx hnd, callBody_spec ctx hnd]
    refine Prod.ext rfl ?_
    show afterBody ctx who fn args (st.mapScopes u) = (afterBody ctx who fn args st).mapScopes u
    unfold afterBody
    rw [mapScopes_bumpExec]
    rfl

theorem mapScopes_runCallback (cb : Option Nat) (who : Who) (fn start : Nat) (err : Option DErr) (st : St) :
    runCallback cb who fn start err (st.mapScopes u) = (runCallback cb who fn start err st).mapScopes u := by
  unfold runCallback
  cases cb <;> rfl

variable (hu : ∀ s, CacheBlind (u s))
include hu

theorem mapScopes_ctorCommit (ctx : Ctx) (n : Nat) (node : CtorNode) (r : BodyRes) (st : St) :
    ctorCommit ctx n node r (st.mapScopes u) = (ctorCommit ctx n node r st).mapScopes u := by
  rw [ctorCommit_eq, ctorCommit_eq]
  cases retOf node.fn.id r with
  | none => rfl
  | some ret => simp only; rw [mapScopes_modScope u st _ _ (extractSlots_blind (hu _) _ _ _ _)]; rfl

theorem mapScopes_decoCommit (ctx : Ctx) (d : Nat) (node : DecoNode) (r : BodyRes) (st : St) :
    decoCommit ctx d node r (st.mapScopes u) = (decoCommit ctx d node r st).mapScopes u := by
  rw [decoCommit_eq, decoCommit_eq]
  cases retOf node.fn.id r with
  | none => rfl
  | some ret => simp only; rw [mapScopes_modScope u st _ _ (extractSlots_blind (hu _) _ _ _ _)]; rfl

theorem mapScopes_ctorTail (ctx : Ctx) (n : Nat) (node : CtorNode) (args : List Val) (st : St) :
    ctorTail ctx n node args (st.mapScopes u) =
      ((ctorTail ctx n node args st).1, (ctorTail ctx n node args st).2.mapScopes u) := by
  unfold ctorTail
  simp only [mapScopes_callBody, mapScopes_ctorCommit u hu, mapScopes_runCallback]
  rfl

theorem mapScopes_decoTail (ctx : Ctx) (d : Nat) (node : DecoNode) (args : List Val) (st : St) :
    decoTail ctx d node args (st.mapScopes u) =
      ((decoTail ctx d node args st).1, (decoTail ctx d node args st).2.mapScopes u) := by
  unfold decoTail
  simp only [mapScopes_callBody, mapScopes_decoCommit u hu, mapScopes_runCallback]
  rfl

end

end Dig
