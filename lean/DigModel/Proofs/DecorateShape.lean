import DigModel.Proofs.Rollback
/-
  `apiDecorate` as an equation: the parse, a decision that looks at the parse and at one decorator table, and one of two
  results.  (`apiDecorate_cases` is the elimination, for a property of one call; the equation is for two calls
  side by side.)
-/
namespace Dig

def decoDecide (ctx : Ctx) (fn : Fn) (i s : Nat) (cb info : Bool) (r : Except DErr (List Param)) (tbl : List (Key × Nat)) :
    Except DErr (DecoNode × List Key × RegRes) :=
  match r with
  | .error e => .error e
  | .ok params =>
    match newResultList ctx.env {} fn with
    | .error e => .error e
    | .ok results =>
      match resultKeys ctx.env (slotResults results) with
      | .error e => .error e
      | .ok keys =>
        if hasDup keys || keys.any (fun k => (aget tbl k).isSome) then .error .invalid0
        else .ok ({ fn := fn, params := params, results := results, s := s, cb := if cb then some i else none }, keys,
          { v := .ok, info := if info then some { id := fn.id, ins := dotParams params, outs := dotSlots results } else none })

theorem apiDecorate_nonfunc (ctx : Ctx) (fn : Fn) (st : St) (i s : Nat) (cb info : Bool) {v : NonFunc}
    (hnf : fn.nonfunc = some v) : apiDecorate ctx fn st i s cb info = (st, { v := .err .invalid0 }) := by
  unfold apiDecorate
  rw [hnf]

theorem apiDecorate_eq (ctx : Ctx) (fn : Fn) (st : St) (i s : Nat) (cb info : Bool) (hnf : fn.nonfunc = none)
    (r : Except DErr (List Param)) (w : St) (hD : parseParams ctx.env st s fn = (r, w)) :
    apiDecorate ctx fn st i s cb info =
      match decoDecide ctx fn i s cb info r (w.scope s).decorators with
      | .error e => (st, { v := .err e })
      | .ok (node, keys, res) =>
        (({ w with decos := w.decos ++ [node] } : St).modScope s
          (fun sc => { sc with decorators := keys.foldl (fun m k => aset m k w.decos.length) sc.decorators }), res) := by
  have hrb := parse_rollback_eq ctx.env st s fn
  rw [hD] at hrb
  simp only at hrb
  unfold apiDecorate decoDecide
  simp only [hnf, hD]
  cases r with
  | error e => simp only [hrb]
  | ok params =>
    simp only
    cases newResultList ctx.env {} fn with
    | error e => simp only [hrb]
    | ok results =>
      simp only
      cases resultKeys ctx.env (slotResults results) with
      | error e => simp only [hrb]
      | ok keys =>
        simp only
        split
        · simp only [hrb]
        · rfl

theorem apiDecorate_len_log (ctx : Ctx) (fn : Fn) (st : St) (i s : Nat) (cb info : Bool) :
    (apiDecorate ctx fn st i s cb info).1.scopes.length = st.scopes.length ∧
    (apiDecorate ctx fn st i s cb info).1.log = st.log := by
  refine apiDecorate_cases ctx fn st i s cb info (P := fun x => x.1.scopes.length = st.scopes.length ∧ x.1.log = st.log)
    (fun _ => ⟨rfl, rfl⟩) fun params results keys w hD _ _ _ _ => ?_
  have hw : Work st (parseParams ctx.env st s fn).2 s := work_parseParams (Work.refl st s) ctx.env fn
  rw [hD] at hw
  exact ⟨(List.length_modify _ _ _).trans hw.len, hw.log⟩

end Dig
