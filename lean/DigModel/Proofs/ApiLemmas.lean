import DigModel.Proofs.ApiShape
/-
  Events: a parse writes nothing to the log, only an Invoke reports events, and in a DryRun container those are
  callbacks.
-/
namespace Dig

theorem newGraphNode_log (st : St) (s : Nat) (node : GNode) : (st.newGraphNode s node).log = st.log := by
  unfold St.newGraphNode
  generalize st.subscopes s = l
  induction l generalizing st with
  | nil => rfl
  | cons x xs ih =>
    simp only [List.foldl_cons]
    rw [ih]
    cases node <;> rfl

theorem foldl_newPG_log (s oldLen : Nat) (l : List Nat) (st : St) :
    (List.foldl (fun st j => st.newGraphNode s (GNode.pg (oldLen + j))) st l).log = st.log := by
  induction l generalizing st with
  | nil => rfl
  | cons x xs ih => simp only [List.foldl_cons]; rw [ih, newGraphNode_log]

theorem addPGNodes_log (st : St) (s oldLen : Nat) (descs : List PGDesc) : (addPGNodes st s oldLen descs).log = st.log := by
  unfold addPGNodes
  simp only
  rw [foldl_newPG_log]

theorem parseParams_log (env : TyEnv) (st : St) (s : Nat) (fn : Fn) : (parseParams env st s fn).2.log = st.log := by
  unfold parseParams
  simp only [addPGNodes_log]

def Op.isInvoke : Op → Bool
  | .invoke _ _ _ => true
  | _ => false

theorem step_passive (ctx : Ctx) (fns : List Fn) (st : St) (i : Nat) (op : Op) (h : op.isInvoke = false) :
    (step ctx fns st i op).2.ev = [] := by
  refine step_cases ctx fns st i op (P := fun x => x.2.ev = []) (fun _ _ _ => rfl) (fun _ _ _ _ _ _ _ => rfl)
    (fun _ _ _ _ _ _ _ _ => rfl) ?_ (fun _ _ => rfl)
  intro s f info fn e
  rw [e] at h; cases h

theorem apiInvoke_dry (ctx : Ctx) (hdry : ctx.cfg.dry = true) (fn : Fn) (st : St) (s : Nat) (info : Bool)
    (hlog : st.log = []) : ∀ e ∈ (apiInvoke ctx fn st s info).2.ev, isCb e = true := by
  have hnil : ∀ (w : St) (v : Verdict), ∀ e ∈ (w, ({ v := v } : OpRes)).2.ev, isCb e = true :=
    fun _ _ _ he => nomatch he
  refine apiInvoke_cases (P := fun x => ∀ e ∈ x.2.ev, isCb e = true) (fun _ _ => hnil _ _)
    (fun _ _ _ _ => hnil _ _) (fun _ _ _ _ _ _ _ => hnil _ _) (fun _ _ _ _ _ _ _ => hnil _ _) ?_
  intro _ params w w3 hpp _ hck
  have hw3 : w3.log = [] := by
    have hp := parseParams_log ctx.env st s fn
    rw [hpp] at hp
    rcases invokeCheck_ok hck with e | ⟨_, e⟩ <;> rw [e] <;> exact hp.trans hlog
  unfold invokeRun
  have hb := buildList_dry ctx hdry (engineFuel w3 params) params s w3
  rw [← wrapErr_state _ DErr.argsFailed] at hb
  cases hbl : EM.wrapErr (buildList ctx (engineFuel w3 params) params s) DErr.argsFailed w3 with
  | mk r4 w4 =>
    rw [hbl] at hb
    obtain ⟨l, hl, hcb⟩ := hb
    simp only at hl
    rw [hw3] at hl
    cases r4 with
    | error f => simp only; intro e he; rw [hl] at he; exact hcb e (by simpa using he)
    | ok args =>
      simp only [callBody_dry ctx hdry]
      intro e he; rw [hl] at he; exact hcb e (by simpa using he)

end Dig
