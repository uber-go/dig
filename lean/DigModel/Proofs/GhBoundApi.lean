import DigModel.Proofs.GhBound
import DigModel.Proofs.GraphMeaning
import DigModel.Proofs.NoBugApi
/-
  `OB` in every reachable container; no operation of any program makes the model answer "dig panics".
-/
namespace Dig

theorem StepInv.and {ctx : Ctx} {fns : List Fn} {I J : St → Prop} (HI : StepInv ctx fns I)
    (reset : ∀ st, J st → J { st with log := [] })
    (scope : ∀ st p, I st → J st → st.log = [] → p < st.scopes.length → J (apiScope st p))
    (provide : ∀ st i s f fn o, I st → J st → st.log = [] → fnOf fns f = some fn → s < st.scopes.length →
      J (apiProvide ctx fn st i s o).1)
    (decorate : ∀ st i s f fn cb info, I st → J st → st.log = [] → fnOf fns f = some fn → s < st.scopes.length →
      J (apiDecorate ctx fn st i s cb info).1)
    (invoke : ∀ st s f fn info, I st → J st → st.log = [] → fnOf fns f = some fn → s < st.scopes.length →
      J (apiInvoke ctx fn st s info).1) :
    StepInv ctx fns fun st => I st ∧ J st where
  reset st h := ⟨HI.reset st h.1, reset st h.2⟩
  scope st p h hl hp := ⟨HI.scope st p h.1 hl hp, scope st p h.1 h.2 hl hp⟩
  provide st i s f fn o h hl hf hs := ⟨HI.provide st i s f fn o h.1 hl hf hs, provide st i s f fn o h.1 h.2 hl hf hs⟩
  decorate st i s f fn cb info h hl hf hs :=
    ⟨HI.decorate st i s f fn cb info h.1 hl hf hs, decorate st i s f fn cb info h.1 h.2 hl hf hs⟩
  invoke st s f fn info h hl hf hs := ⟨HI.invoke st s f fn info h.1 hl hf hs, invoke st s f fn info h.1 h.2 hl hf hs⟩

theorem apiInvoke_inv_frame {I : St → Prop} {ctx : Ctx} {fn : Fn} {st : St} {s : Nat} {info : Bool} (h : I st)
    (hparse : I (parseParams ctx.env st s fn).2)
    (hflag : ∀ w, I w → checkAcyclic w s = .acyclic → I (w.modScope s fun x => { x with verified := true }))
    (hframe : ∀ a b, I a → RegFrame a b → I b) : I (apiInvoke ctx fn st s info).1 :=
  apiInvoke_inv h hparse hflag
    (fun params w hw => hframe _ _ hw (buildList_regFrame ctx _ params s w))
    (fun _ _ args w4 _ _ hw4 => hframe _ _ hw4 (regFrame_callBody ctx .invoked fn args w4))

theorem OB.verifyScopes {w : St} (h : OB w) (cfg : Cfg) (l : List Nat) : OB (verifyScopes cfg l w).2 :=
  h.graphSame (graphSame_verifyScopes cfg l w)

theorem verifyScopes_err_cycle {w : St} (h : OB w) (cfg : Cfg) (l : List Nat) (sc : Nat) (r : CycleRes)
    (he : (verifyScopes cfg l w).1 = .error (sc, r)) : ∃ p, r = .cycle p := by
  obtain ⟨_, h2, h3⟩ := verifyScopes_err_check cfg l w sc r he
  have ht := checkAcyclic_total (h.verifyScopes cfg l) sc
  rw [h2] at ht
  cases r with
  | acyclic => exact absurd rfl h3
  | cycle p => exact ⟨p, rfl⟩
  | outOfRange => exact absurd rfl ht.1
  | fuel => exact absurd rfl ht.2

theorem OB.register {st : St} (h : OB st) {ctx : Ctx} {fn : Fn} {i s : Nat} {o : ProvideOpts} {target : Nat}
    {params : List Param} {results : List RSlot} {n : Nat} {w : St}
    (hreg : provideRegister ctx fn st i s o = .ok (target, params, results, n, w)) : OB w := by
  obtain ⟨_, w1, _, _, _, _, _, hpp, _, rfl, rfl, _, _, rfl⟩ := provideRegister_ok_eq hreg
  have h1 := h.parseParams ctx.env target fn
  rw [hpp] at h1
  exact ((h1.addCtor _ rfl).newGraphNode target _).modScope target _ fun _ => rfl

theorem OB.provide {st : St} (h : OB st) (ctx : Ctx) (fn : Fn) (i s : Nat) (o : ProvideOpts) :
    OB (apiProvide ctx fn st i s o).1 ∧ (apiProvide ctx fn st i s o).2.v ≠ .panicDig := by
  refine ⟨apiProvide_inv (fun _ => h.eqButVerified) (fun _ _ _ _ _ => h.register)
    (fun _ l hw => hw.verifyScopes ctx.cfg l) fun _ t _ hw => hw.modScope t _ fun _ => rfl, ?_⟩
  refine apiProvide_stages ctx fn st i s o (P := fun x => x.2.v ≠ .panicDig) (fun _ _ _ => nofun) ?_
    (fun _ _ _ _ _ _ _ _ => nofun)
  intro target _ _ _ w0 w sc c hreg hvs hc
  obtain ⟨p, rfl⟩ := verifyScopes_err_cycle (h.register hreg) ctx.cfg (st.subscopes target) sc c (by rw [hvs])
  exact absurd rfl (hc p)

theorem OB.decorate {st : St} (h : OB st) (ctx : Ctx) (fn : Fn) (i s : Nat) (cb info : Bool) :
    OB (apiDecorate ctx fn st i s cb info).1 ∧ (apiDecorate ctx fn st i s cb info).2.v ≠ .panicDig :=
  ⟨apiDecorate_inv h (h.parseParams ctx.env s fn) fun _ _ _ hw => (hw.addDeco _).modScope s _ fun _ => rfl,
    apiDecorate_cases ctx fn st i s cb info (P := fun x => x.2.v ≠ .panicDig) (fun _ => nofun)
      fun _ _ _ _ _ _ _ _ _ => nofun⟩

theorem orderOf_nil (s : Nat) : orderOf [] s = 0 := rfl

/-- the orders after `Scope.Scope(name)`: in the child a node of the parent's holder has the order it has in the
    parent -/
theorem OB.scope {st : St} (h : OB st) (parent : Nat) (hp : parent < st.scopes.length) : OB (apiScope st parent) := by
  have hold : ∀ x s, Bnd (st.scope s).gh.length (nodeOrder st x s) := fun x s => by
    cases x with
    | ctor m => exact h.ctor s m
    | pg i => exact h.pg s i
  have hnew : ∀ x s, Bnd ((apiScope st parent).scope s).gh.length (nodeOrder (apiScope st parent) x s) := by
    intro x s
    rw [apiScope_gh, nodeOrder_apiScope st parent hp]
    by_cases hs : s = st.scopes.length
    · rw [if_pos hs]
      split
      · exact hold x parent
      · -- an order recorded for an index that is not a scope yet reads as 0
        have h0 := hold x s
        rw [hs, scope_ge_len st _ (Nat.le_refl _)] at h0
        rw [hs]
        exact Or.inl (h0.resolve_right (Nat.not_lt_zero _))
    · rw [if_neg hs, if_neg fun hc => hs hc.1]; exact hold x s
  exact ⟨fun s m => hnew (.ctor m) s, fun s i => hnew (.pg i) s⟩

theorem invokeCheck_no_panic {w : St} (h : OB w) (s : Nat) : invokeCheck w s ≠ .error .panicDig := by
  have ht := checkAcyclic_total h s
  unfold invokeCheck
  split
  · nofun
  · cases hca : checkAcyclic w s with
    | acyclic => nofun
    | cycle p => nofun
    | outOfRange => exact absurd hca ht.1
    | fuel => exact absurd hca ht.2

theorem OB.invoke {st : St} (h : OB st) (ctx : Ctx) (fn : Fn) (s : Nat) (info : Bool) :
    OB (apiInvoke ctx fn st s info).1 ∧
    ∀ params w, Dig.parseParams ctx.env st s fn = (.ok params, w) → invokeCheck w s ≠ .error .panicDig := by
  have ho1 := h.parseParams ctx.env s fn
  refine ⟨apiInvoke_inv_frame h ho1 (fun w hw _ => hw.modScope s _ fun _ => rfl) fun _ _ => OB.regFrame, ?_⟩
  intro params w hpp
  rw [hpp] at ho1
  exact invokeCheck_no_panic ho1 s

structure SafeInv (env : TyEnv) (st : St) : Prop where
  nb : NBInv env st
  ob : OB st

theorem SafeInv.init (env : TyEnv) : SafeInv env ({} : St) := ⟨NBInv.init env, OB.init⟩

theorem OB.resetLog {st : St} (h : OB st) : OB { st with log := [] } := ⟨h.ctor, h.pg⟩

theorem OB.stepInv (ctx : Ctx) (fns : List Fn) : StepInv ctx fns OB where
  reset _ h := h.resetLog
  scope _ p h _ hp := h.scope p hp
  provide _ i s _ fn o h _ _ _ := (h.provide ctx fn i s o).1
  decorate _ i s _ fn cb info h _ _ _ := (h.decorate ctx fn i s cb info).1
  invoke _ s _ fn info h _ _ _ := (h.invoke ctx fn s info).1

theorem OB.step {st : St} (h : OB st) (ctx : Ctx) (fns : List Fn) (i : Nat) (op : Op) : OB (Dig.step ctx fns st i op).1 :=
  step_inv (OB.stepInv ctx fns) h i op

theorem SafeInv.step {st : St} (ctx : Ctx) (h : SafeInv ctx.env st) (fns : List Fn) (i : Nat) (op : Op) :
    SafeInv ctx.env (Dig.step ctx fns st i op).1 ∧ (Dig.step ctx fns st i op).2.v ≠ .panicDig := by
  refine ⟨⟨h.nb.step ctx fns i op, h.ob.step ctx fns i op⟩, ?_⟩
  have h0 := h.ob.resetLog
  refine step_cases ctx fns st i op (P := fun x => x.2.v ≠ .panicDig) (fun _ _ _ => nofun)
    (fun s _ o fn _ _ _ => (h0.provide ctx fn i s o).2) (fun s _ cb info fn _ _ _ => (h0.decorate ctx fn i s cb info).2)
    ?_ ?_
  · -- the resolver does not panic; what is left is the graph check
    intro s _ info fn _ _ _ hc
    obtain ⟨params, w, hpp, hck⟩ := apiInvoke_nobug ctx h.nb.resetLog fn s info hc
    exact (h0.invoke ctx fn s info).2 params w hpp hck
  · intro v hv
    rcases hv with rfl | rfl <;> nofun

theorem runOps_safe (ctx : Ctx) (fns : List Fn) (ops : List Op) (i : Nat) (st : St) (acc : List OpRes)
    (h : SafeInv ctx.env st) (hacc : ∀ r ∈ acc, r.v ≠ .panicDig) :
    SafeInv ctx.env (Dig.runOps ctx fns ops i st acc).1 ∧ ∀ r ∈ (Dig.runOps ctx fns ops i st acc).2, r.v ≠ .panicDig :=
  runOps_inv_all (fun _ i op h => h.step ctx fns i op) ops i st acc h hacc

/-- **no program makes dig panic by itself**: whatever is registered, in whatever order and scopes, and whatever the
    user functions do, no operation ends with a panic raised by the library's own code paths that the model follows
    (an index outside a graph holder, a recursion the acyclicity check cannot finish, a built value or a decorated
    value missing from the cache it was just stored in, a provider without its declared key) -/
theorem program_never_panics (p : Program) : ∀ r ∈ (runProgram p).2, r.v ≠ .panicDig :=
  (runOps_safe p.ctx p.fns p.ops 0 {} [] (SafeInv.init _) nofun).2

theorem program_safeInv (p : Program) : SafeInv p.types (runProgram p).1 :=
  (runOps_safe p.ctx p.fns p.ops 0 {} [] (SafeInv.init _) nofun).1

end Dig
