import DigModel.Proofs.Lookup
import DigModel.Proofs.Retry
import DigModel.Proofs.Termination
/-
  Value-group parameters.  When nothing on the path to the root decorates the group, `paramGroupedSlice.Build` is
  the provider loops followed by a read of the group stores (`buildGroup_undecorated`).  The group is only
  assembled after every provider of it on the path has been built: a successful `constructorNode.Call` leaves
  the node `called`, `called` is never taken back, and the provider loops stop at the first failure.
-/
namespace Dig

theorem forEachM_fixed {α : Type} (xs : List α) (f : α → EM Unit) (st : St)
    (h : ∀ x ∈ xs, f x st = (.ok (), st)) : forEachM xs f st = (.ok (), st) := by
  induction xs with
  | nil => rfl
  | cons x rest ih =>
    simp only [forEachM, EM.bind, h x (by simp)]
    exact ih (fun y hy => h y (by simp [hy]))

theorem findDecoratedGroup_none (st : St) (k : Key) (anc : List Nat)
    (h : ∀ s ∈ anc, aget (st.scope s).decoratedGroups k = none) : findDecoratedGroup st k anc = none := by
  induction anc with
  | nil => rfl
  | cons s rest ih =>
    simp only [findDecoratedGroup, h s (by simp)]
    exact ih (fun y hy => h y (by simp [hy]))

theorem buildGroup_undecorated (ctx : Ctx) (fuel : Nat) (k : Key) (soft : Bool) (c : Nat) (st : St)
    (hd : ∀ s ∈ st.ancestors c, aget (st.scope s).decorators k = none)
    (hg : ∀ s ∈ st.ancestors c, aget (st.scope s).decoratedGroups k = none) :
    buildGroup ctx (fuel + 1) k soft c st =
      EM.bind
        (if soft then EM.pure () else
          forEachM (st.ancestors c) fun s => fun st3 =>
            forEachM (agetL (st3.scope s).providers k)
              (fun n => fun st4 => EM.wrapErr (callCtor ctx fuel n (st4.ctor n).origS)
                (.paramGroup k (ctorId ctx.sameIds (st4.ctor n).fn)) st4) st3)
        (fun _ => fun st5 => (.ok (Val.sl ((st.ancestors c).flatMap fun s => agetL (st5.scope s).groups k)), st5)) st := by
  simp only [buildGroup]
  generalize hL : forEachM (st.ancestors c).reverse _ = L
  have h1 : L st = (.ok (), st) := by
    subst hL
    apply forEachM_fixed
    intro s hs
    simp only [hd s (by simpa using hs)]
  simp only [EM.bind, h1, findDecoratedGroup_none st k _ hg]

theorem callCtor_called (ctx : Ctx) (L L' : Nat) (fuel n c : Nat) (hn : n < L) (st : St) (hv : VL L L' st) :
    Sat (callCtor ctx fuel n c st) (fun _ s => (s.ctor n).called = true) (fun _ _ => True) := by
  cases fuel with
  | zero => rw [callCtor_zero]; trivial
  | succ fuel =>
    rw [callCtor_succ]
    split
    · assumption
    · split
      · trivial
      · have hv1 := hv.modCtor n true
        refine finally_sat (Q' := fun _ s => (s.ctor n).called = true) (E' := fun _ _ => True) ?_ ?_ (fun _ _ _ => trivial)
        · refine bind_sat ((shallowCheck_sat _ _ _).mono (fun _ _ e => e) (fun _ _ _ => trivial)) ?_
          rintro _ _ rfl
          have hb := (engine_flags ctx L L' fuel).2.2.2.2.2 (st.ctor n).params c _ hv1
          refine bind_sat (wrapErr_sat ((sat_state.2 (hv1.step hb)).mono (fun _ _ h => h) (fun _ _ _ => trivial))
            (fun _ _ _ => trivial)) fun args s3 h3 => sat_iff.2 ⟨fun u hu => ?_, fun _ _ => trivial⟩
          -- a normal return means the body committed, and the commit sets `called`
          have hcm : (callBody ctx (.ctor n) (st.ctor n).fn args s3).1.commits = true :=
            (ctorOutcome_ok_iff ctx (st.ctor n).fn.id _).mp ⟨u, hu⟩
          have h4 := ctorTail_ctor ctx n (st.ctor n) args s3 n
          simp only [hcm, h3.2.1 ▸ hn, and_self, if_true] at h4
          rw [h4]
        · intro _ s h
          rw [ctor_modCtor]
          split
          · simp [h]
          · exact h

theorem callCtor_ok_called (ctx : Ctx) (L L' : Nat) : ∀ (fuel n c : Nat), n < L → ∀ (st : St), VL L L' st →
    ∀ (u : Unit) (st' : St), callCtor ctx fuel n c st = (.ok u, st') → (st'.ctor n).called = true :=
  fun fuel n c hn st hv _ _ h => (callCtor_called ctx L L' fuel n c hn st hv).ok h

theorem callDeco_called (ctx : Ctx) (L L' : Nat) (fuel d c : Nat) (hd : d < L') (st : St) (hv : VL L L' st) :
    Sat (callDeco ctx fuel d c st) (fun _ s => (s.deco d).state = .called) (fun _ _ => True) := by
  cases fuel with
  | zero => rw [callDeco_zero]; trivial
  | succ fuel =>
    rw [callDeco_succ]
    split
    · rename_i hc
      exact (by simpa using hc : (st.deco d).state = .called)
    · have hv1 := hv.modDeco d
      refine finally_sat (Q' := fun _ s => (s.deco d).state = .called) (E' := fun _ _ => True) ?_ ?_ (fun _ _ _ => trivial)
      · refine bind_sat ((shallowCheck_sat _ _ _).mono (fun _ _ e => e) (fun _ _ _ => trivial)) ?_
        rintro _ _ rfl
        have hb := (engine_flags ctx L L' fuel).2.2.2.2.2 (st.deco d).params (st.deco d).s _ hv1
        refine bind_sat (wrapErr_sat ((sat_state.2 (hv1.step hb)).mono (fun _ _ h => h) (fun _ _ _ => trivial))
          (fun _ _ _ => trivial)) fun args s3 h3 => sat_iff.2 ⟨fun u hu => ?_, fun _ _ => trivial⟩
        have hcm : (callBody ctx (.deco d) (st.deco d).fn args s3).1.commits = true :=
          (decoOutcome_ok_iff ctx (st.deco d).fn.id _).mp ⟨u, hu⟩
        have h4 := decoTail_deco ctx d (st.deco d) args s3 d
        simp only [hcm, h3.2.2 ▸ hd, and_self, if_true] at h4
        rw [h4]
      · intro _ s h
        rw [deco_modDeco]
        split
        · simp [h]
        · exact h

/-- the two nested provider loops of `paramGroupedSlice.Build`: `Flags` from the start (so the provider tables are those
    of `st` and `called` is never taken back), and every provider of the scopes done is built -/
theorem groupProviders_sat (ctx : Ctx) (L L' fuel : Nat) (k : Key) (anc : List Nat) (st : St) (hv : VL L L' st) :
    Sat (forEachM anc (groupProvStep ctx fuel k) st)
      (fun _ s' => Flags st s' ∧ ∀ s ∈ anc, ∀ n ∈ agetL (st.scope s).providers k, (s'.ctor n).called = true)
      (fun _ _ => True) := by
  refine forEachM_sat anc
    (I := fun done s' => Flags st s' ∧ ∀ s ∈ done, ∀ n ∈ agetL (st.scope s).providers k, (s'.ctor n).called = true)
    ⟨Flags.refl st, nofun⟩ ?_
  intro done s _ _ s3 ⟨hf3, hdone⟩
  have hv3 := hv.step hf3
  have hprov : agetL (s3.scope s).providers k = agetL (st.scope s).providers k := by rw [(hf3.reg.scopeReg s).providers]
  refine (forEachM_sat _ (E := fun _ _ => True)
    (I := fun done' s4 => Flags s3 s4 ∧ ∀ n ∈ done', (s4.ctor n).called = true) ⟨Flags.refl s3, nofun⟩ ?_).mono ?_
    (fun _ _ h => h)
  · intro done' n _ e s4 ⟨hf4, hdone'⟩
    have hnL : n < L := by rw [← hv3.2.1]; exact hv3.1.1 s k n (mem_of_eq_append e)
    have hv4 := hv3.step hf4
    have hfl := (engine_flags ctx L L' fuel).1 n (s4.ctor n).origS hnL s4 hv4
    refine wrapErr_sat (((sat_state.2 hfl).and (callCtor_called ctx L L' fuel n _ hnL s4 hv4)).mono ?_
      (fun _ _ _ => trivial)) (fun _ _ h => h)
    rintro _ s5 ⟨hf5, hc⟩
    refine ⟨hf4.trans hf5, fun m hm => ?_⟩
    rcases List.mem_append.mp hm with hm | hm
    · exact hf5.ctorMono m (hdone' m hm)
    · rw [List.mem_singleton.mp hm]; exact hc
  · rintro _ s4 ⟨hf4, hall⟩
    refine ⟨hf3.trans hf4, fun s' hs' n hn => ?_⟩
    rcases List.mem_append.mp hs' with hs' | hs'
    · exact hf4.ctorMono n (hdone s' hs' n hn)
    · rw [List.mem_singleton.mp hs'] at hn
      exact hall n (hprov ▸ hn)

theorem groupProviders_called (ctx : Ctx) (L L' fuel : Nat) (k : Key) (anc : List Nat) (st st' : St) (hv : VL L L' st)
    (h : forEachM anc (fun s => fun st3 =>
          forEachM (agetL (st3.scope s).providers k)
            (fun n => fun st4 => EM.wrapErr (callCtor ctx fuel n (st4.ctor n).origS)
              (.paramGroup k (ctorId ctx.sameIds (st4.ctor n).fn)) st4) st3) st = (.ok (), st')) :
    ∀ s ∈ anc, ∀ n ∈ agetL (st.scope s).providers k, (st'.ctor n).called = true :=
  ((groupProviders_sat ctx L L' fuel k anc st hv).ok h).2

theorem buildGroup_undecorated_ok (ctx : Ctx) (fuel : Nat) (k : Key) (c : Nat) (st : St)
    (hd : ∀ s ∈ st.ancestors c, aget (st.scope s).decorators k = none)
    (hg : ∀ s ∈ st.ancestors c, aget (st.scope s).decoratedGroups k = none)
    {v : Val} {st' : St} (h : buildGroup ctx (fuel + 1) k false c st = (.ok v, st')) :
    forEachM (st.ancestors c) (groupProvStep ctx fuel k) st = (.ok (), st') ∧
    v = .sl ((st.ancestors c).flatMap fun s => agetL (st'.scope s).groups k) := by
  rw [buildGroup_undecorated ctx fuel k false c st hd hg, if_neg Bool.false_ne_true] at h
  obtain ⟨_, _, hloop, hfin⟩ := bind_eq_ok h
  cases hfin
  exact ⟨hloop, rfl⟩

end Dig
