import DigModel.Proofs.Just
import DigModel.Proofs.ProvApi
import DigModel.Proofs.ProvideShape
/-
  `Just` is an invariant of the whole API.
-/
namespace Dig

theorem prov_callBody_hist (ctx : Ctx) (who : Who) (fn : Fn) (args : List Val) (st : St) :
    HistExt st (callBody ctx who fn args st).2 := by
  by_cases hd : ctx.cfg.dry = true
  · rw [callBody_dry ctx hd]; exact HistExt.refl st
  · rw [callBody_spec ctx (by simpa using hd)]; exact ⟨bodyEvents ctx who fn args st, rfl⟩

theorem ctor_of_take {st w : St} (h : w.ctors.take st.ctors.length = st.ctors) (n : Nat) (hn : n < st.ctors.length) :
    w.ctor n = st.ctor n := by
  unfold St.ctor
  rw [← getD_of_take w.ctors st.ctors.length n default hn, h]

theorem ctorsKeep_work {st w : St} {target : Nat} (h : Work st w target) : CtorsKeep st w := by
  intro n hn
  have := ctor_of_take h.ctorsPre n hn
  exact ⟨Nat.lt_of_lt_of_le hn h.ctorsLen, by rw [this], by rw [this], by rw [this], fun hc => by rw [this]; exact hc⟩

theorem ctorsKeep_of_ctors_eq {a b : St} (h : b.ctors = a.ctors) : CtorsKeep a b := by
  intro n hn
  have : b.ctor n = a.ctor n := ctor_of_ctors_eq h _
  exact ⟨by rw [h]; exact hn, by rw [this], by rw [this], by rw [this], fun hc => by rw [this]; exact hc⟩

theorem Just.cacheSame {env : TyEnv} {a b : St} (h : Just env a) (hc : CacheSame a b) (hk : CtorsKeep a b) : Just env b :=
  h.transfer hk (HistExt.of_eq hc.hist) hc.values

theorem ctorsKeep_apiProvide (ctx : Ctx) (fn : Fn) (st : St) (i s : Nat) (o : ProvideOpts) :
    CtorsKeep st (apiProvide ctx fn st i s o).1 :=
  apiProvide_cases ctx fn st i s o (P := fun x => CtorsKeep st x.1) (fun _ _ he => ctorsKeep_of_ctors_eq he.ctors.symm)
    (fun _ _ _ _ _ hr => ctorsKeep_work hr.work)
    (fun _ _ _ _ _ hr => (ctorsKeep_work hr.work).trans (ctorsKeep_of_ctors_eq rfl))

theorem apiProvide_decos (ctx : Ctx) (fn : Fn) (st : St) (i s : Nat) (o : ProvideOpts) :
    (apiProvide ctx fn st i s o).1.decos = st.decos ∧
    ∀ j, ((apiProvide ctx fn st i s o).1.scope j).decorators = (st.scope j).decorators :=
  apiProvide_cases ctx fn st i s o
    (P := fun x => x.1.decos = st.decos ∧ ∀ j, (x.1.scope j).decorators = (st.scope j).decorators)
    (fun _ _ he => ⟨he.decos.symm, fun j => (he.scope j).decorators.symm⟩)
    (fun _ _ _ _ _ hr => ⟨hr.work.decos, hr.work.decorators⟩)
    (fun _ _ _ _ _ hr => ⟨hr.work.decos, fun j => by rw [scope_modScope]; split <;> exact hr.work.decorators j⟩)

theorem Just.provide {env : TyEnv} {st : St} (h : Just env st) (ctx : Ctx) (fn : Fn) (i s : Nat) (o : ProvideOpts) :
    Just env (apiProvide ctx fn st i s o).1 :=
  h.cacheSame (cacheSame_apiProvide ctx fn st i s o) (ctorsKeep_apiProvide ctx fn st i s o)

theorem apiDecorate_ctors (ctx : Ctx) (fn : Fn) (st : St) (i s : Nat) (cb info : Bool) :
    (apiDecorate ctx fn st i s cb info).1.ctors = st.ctors :=
  apiDecorate_cases ctx fn st i s cb info (P := fun x => x.1.ctors = st.ctors) (fun _ => rfl)
    (fun _ _ _ _ _ hg _ _ _ => hg.ctors.symm)

theorem ctorsKeep_ordersOnly {a b : St} (h : OrdersOnly a b) : CtorsKeep a b := by
  intro n hn
  obtain ⟨o, e⟩ := h.ctor n
  exact ⟨by rw [h.ctorsLen]; exact hn, by rw [e], by rw [e], by rw [e], fun hc => by rw [e]; exact hc⟩

theorem ctorsKeep_apiScope (st : St) (parent : Nat) : CtorsKeep st (apiScope st parent) :=
  ctorsKeep_ordersOnly (apiScope_shape st parent).1

theorem Just.scope {env : TyEnv} {st : St} (h : Just env st) (parent : Nat) : Just env (apiScope st parent) :=
  h.cacheSame (cacheSame_apiScope st parent) (ctorsKeep_apiScope st parent)

theorem Just.invoke {st : St} (ctx : Ctx) (h : Just ctx.env st) (fn : Fn) (s : Nat) (info : Bool) :
    Just ctx.env (apiInvoke ctx fn st s info).1 := by
  have hg := ghOnly_parseParams ctx.env st s fn
  refine apiInvoke_inv h (h.cacheSame (cacheSame_ghOnly hg) (ctorsKeep_of_ctors_eq hg.ctors.symm))
    (fun w hw _ => hw.cacheSame (cacheSame_modScope _ s _ (fun _ => ⟨rfl, rfl, rfl, rfl⟩)) (ctorsKeep_of_ctors_eq rfl))
    (fun params w hw => (hw.buildList (engineFuel w params) params s).1) (fun _ _ args w4 _ _ h4 => ?_)
  have hf := callBody_fields ctx .invoked fn args w4
  exact h4.transfer (ctorsKeep_of_ctors_eq hf.2.1) (prov_callBody_hist ctx .invoked fn args w4)
    (fun j => by rw [scope_of_scopes_eq hf.1 j])

theorem Just.stepInv (ctx : Ctx) (fns : List Fn) : StepInv ctx fns (Just ctx.env) where
  reset _ h := h.transfer (ctorsKeep_of_ctors_eq rfl) (HistExt.of_eq rfl) (fun _ => rfl)
  scope _ p h _ _ := h.scope p
  provide _ i s _ fn o h _ _ _ := h.provide ctx fn i s o
  decorate st i s _ fn cb info h _ _ _ := h.cacheSame (cacheSame_apiDecorate ctx fn st i s cb info)
    (ctorsKeep_of_ctors_eq (apiDecorate_ctors ctx fn st i s cb info))
  invoke _ s _ fn info h _ _ _ := Just.invoke ctx h fn s info

theorem Just.step {st : St} (ctx : Ctx) (h : Just ctx.env st) (fns : List Fn) (i : Nat) (op : Op) :
    Just ctx.env (Dig.step ctx fns st i op).1 :=
  step_inv (Just.stepInv ctx fns) h i op

theorem Just.runOps (ctx : Ctx) (fns : List Fn) (ops : List Op) (i : Nat) (st : St) (acc : List OpRes)
    (h : Just ctx.env st) : Just ctx.env (Dig.runOps ctx fns ops i st acc).1 :=
  runOps_inv (Just.stepInv ctx fns) ops i st acc h

theorem just_program (p : Program) : Just p.types (runProgram p).1 :=
  Just.runOps p.ctx p.fns p.ops 0 {} [] (Just.init p.types)

end Dig
