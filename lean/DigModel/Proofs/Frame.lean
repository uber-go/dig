import DigModel.Proofs.EngineRel
import DigModel.Proofs.Body
import DigModel.Proofs.Extract
/-
  Frame properties of the resolver: it never touches the registry (scope tree,
  providers, decorators, graph holders, node descriptions), it only appends to
  the log, and in a DryRun container it appends nothing but callback events.
-/
namespace Dig

theorem scope_modScope (st : St) (s j : Nat) (f : ScopeSt → ScopeSt) :
    (st.modScope s f).scope j = if s = j ∧ j < st.scopes.length then f (st.scope j) else st.scope j := by
  unfold St.modScope St.scope
  exact getD_modify _ _ _ _ _

theorem ctor_modCtor (st : St) (n j : Nat) (f : CtorNode → CtorNode) :
    (st.modCtor n f).ctor j = if n = j ∧ j < st.ctors.length then f (st.ctor j) else st.ctor j := by
  unfold St.modCtor St.ctor
  exact getD_modify _ _ _ _ _

theorem deco_modDeco (st : St) (d j : Nat) (f : DecoNode → DecoNode) :
    (st.modDeco d f).deco j = if d = j ∧ j < st.decos.length then f (st.deco j) else st.deco j := by
  unfold St.modDeco St.deco
  exact getD_modify _ _ _ _ _

theorem ctor_of_ctors_eq {a b : St} (h : a.ctors = b.ctors) (n : Nat) : a.ctor n = b.ctor n := by
  unfold St.ctor; rw [h]

theorem deco_of_decos_eq {a b : St} (h : a.decos = b.decos) (d : Nat) : a.deco d = b.deco d := by
  unfold St.deco; rw [h]

/-! ### the registry -/

def ScopeReg (a b : ScopeSt) : Prop :=
  a.parent = b.parent ∧ a.children = b.children ∧ a.providers = b.providers ∧ a.decorators = b.decorators ∧
  a.nodes = b.nodes ∧ a.gh = b.gh ∧ a.verified = b.verified

def CtorStatic (a b : CtorNode) : Prop :=
  a.fn = b.fn ∧ a.params = b.params ∧ a.results = b.results ∧ a.s = b.s ∧ a.origS = b.origS ∧ a.cb = b.cb ∧ a.orders = b.orders

def DecoStatic (a b : DecoNode) : Prop :=
  a.fn = b.fn ∧ a.params = b.params ∧ a.results = b.results ∧ a.s = b.s ∧ a.cb = b.cb

def RegFrame (a b : St) : Prop :=
  a.scopes.length = b.scopes.length ∧ (∀ i, ScopeReg (a.scope i) (b.scope i)) ∧
  a.pgs = b.pgs ∧
  a.ctors.length = b.ctors.length ∧ (∀ n, CtorStatic (a.ctor n) (b.ctor n)) ∧
  a.decos.length = b.decos.length ∧ (∀ d, DecoStatic (a.deco d) (b.deco d))

theorem ScopeReg.refl (a : ScopeSt) : ScopeReg a a := ⟨rfl, rfl, rfl, rfl, rfl, rfl, rfl⟩
theorem ScopeReg.trans {a b c : ScopeSt} (h1 : ScopeReg a b) (h2 : ScopeReg b c) : ScopeReg a c := by
  obtain ⟨a1, a2, a3, a4, a5, a6, a7⟩ := h1
  obtain ⟨b1, b2, b3, b4, b5, b6, b7⟩ := h2
  exact ⟨a1.trans b1, a2.trans b2, a3.trans b3, a4.trans b4, a5.trans b5, a6.trans b6, a7.trans b7⟩
theorem CtorStatic.refl (a : CtorNode) : CtorStatic a a := ⟨rfl, rfl, rfl, rfl, rfl, rfl, rfl⟩
theorem CtorStatic.trans {a b c : CtorNode} (h1 : CtorStatic a b) (h2 : CtorStatic b c) : CtorStatic a c := by
  obtain ⟨a1, a2, a3, a4, a5, a6, a7⟩ := h1
  obtain ⟨b1, b2, b3, b4, b5, b6, b7⟩ := h2
  exact ⟨a1.trans b1, a2.trans b2, a3.trans b3, a4.trans b4, a5.trans b5, a6.trans b6, a7.trans b7⟩
theorem DecoStatic.refl (a : DecoNode) : DecoStatic a a := ⟨rfl, rfl, rfl, rfl, rfl⟩
theorem DecoStatic.trans {a b c : DecoNode} (h1 : DecoStatic a b) (h2 : DecoStatic b c) : DecoStatic a c := by
  obtain ⟨a1, a2, a3, a4, a5⟩ := h1
  obtain ⟨b1, b2, b3, b4, b5⟩ := h2
  exact ⟨a1.trans b1, a2.trans b2, a3.trans b3, a4.trans b4, a5.trans b5⟩

section
variable {a b : ScopeSt} (h : ScopeReg a b)
include h
theorem ScopeReg.parent : a.parent = b.parent := h.1
theorem ScopeReg.children : a.children = b.children := h.2.1
theorem ScopeReg.providers : a.providers = b.providers := h.2.2.1
theorem ScopeReg.decorators : a.decorators = b.decorators := h.2.2.2.1
theorem ScopeReg.gh : a.gh = b.gh := h.2.2.2.2.2.1
theorem ScopeReg.verified : a.verified = b.verified := h.2.2.2.2.2.2
end

section
variable {a b : CtorNode} (h : CtorStatic a b)
include h
theorem CtorStatic.fn : a.fn = b.fn := h.1
theorem CtorStatic.params : a.params = b.params := h.2.1
theorem CtorStatic.results : a.results = b.results := h.2.2.1
theorem CtorStatic.s : a.s = b.s := h.2.2.2.1
theorem CtorStatic.origS : a.origS = b.origS := h.2.2.2.2.1
theorem CtorStatic.orders : a.orders = b.orders := h.2.2.2.2.2.2
end

section
variable {a b : DecoNode} (h : DecoStatic a b)
include h
theorem DecoStatic.fn : a.fn = b.fn := h.1
theorem DecoStatic.params : a.params = b.params := h.2.1
theorem DecoStatic.results : a.results = b.results := h.2.2.1
theorem DecoStatic.s : a.s = b.s := h.2.2.2.1
end

section
variable {a b : St} (h : RegFrame a b)
include h
theorem RegFrame.scopesLen : a.scopes.length = b.scopes.length := h.1
theorem RegFrame.scopeReg (i : Nat) : ScopeReg (a.scope i) (b.scope i) := h.2.1 i
theorem RegFrame.pgs : a.pgs = b.pgs := h.2.2.1
theorem RegFrame.ctorsLen : a.ctors.length = b.ctors.length := h.2.2.2.1
theorem RegFrame.ctorStatic (n : Nat) : CtorStatic (a.ctor n) (b.ctor n) := h.2.2.2.2.1 n
theorem RegFrame.decosLen : a.decos.length = b.decos.length := h.2.2.2.2.2.1
theorem RegFrame.decoStatic (d : Nat) : DecoStatic (a.deco d) (b.deco d) := h.2.2.2.2.2.2 d
end

theorem RegFrame.refl (a : St) : RegFrame a a :=
  ⟨rfl, fun _ => ScopeReg.refl _, rfl, rfl, fun _ => CtorStatic.refl _, rfl, fun _ => DecoStatic.refl _⟩

theorem RegFrame.trans {a b c : St} (h1 : RegFrame a b) (h2 : RegFrame b c) : RegFrame a c :=
  ⟨h1.scopesLen.trans h2.scopesLen, fun i => (h1.scopeReg i).trans (h2.scopeReg i), h1.pgs.trans h2.pgs,
    h1.ctorsLen.trans h2.ctorsLen, fun n => (h1.ctorStatic n).trans (h2.ctorStatic n),
    h1.decosLen.trans h2.decosLen, fun d => (h1.decoStatic d).trans (h2.decoStatic d)⟩

theorem regFrame_modCtor (st : St) (n : Nat) (f : CtorNode → CtorNode) (hf : ∀ x, CtorStatic x (f x)) :
    RegFrame st (st.modCtor n f) := by
  refine ⟨rfl, fun _ => ScopeReg.refl _, rfl, ?_, ?_, rfl, fun _ => DecoStatic.refl _⟩
  · simp [St.modCtor]
  · intro j
    rw [ctor_modCtor]
    split
    · exact hf _
    · exact CtorStatic.refl _

theorem regFrame_modDeco (st : St) (d : Nat) (f : DecoNode → DecoNode) (hf : ∀ x, DecoStatic x (f x)) :
    RegFrame st (st.modDeco d f) := by
  refine ⟨rfl, fun _ => ScopeReg.refl _, rfl, rfl, fun _ => CtorStatic.refl _, ?_, ?_⟩
  · simp [St.modDeco]
  · intro j
    rw [deco_modDeco]
    split
    · exact hf _
    · exact DecoStatic.refl _

theorem regFrame_modScope (st : St) (s : Nat) (f : ScopeSt → ScopeSt) (hf : ∀ x, ScopeReg x (f x)) :
    RegFrame st (st.modScope s f) := by
  refine ⟨?_, ?_, rfl, rfl, fun _ => CtorStatic.refl _, rfl, fun _ => DecoStatic.refl _⟩
  · simp [St.modScope]
  · intro j
    rw [scope_modScope]
    split
    · exact hf _
    · exact ScopeReg.refl _

theorem regFrame_onStack (st : St) (n : Nat) (v : Bool) : RegFrame st (st.modCtor n fun x => { x with onStack := v }) :=
  regFrame_modCtor st n _ fun _ => ⟨rfl, rfl, rfl, rfl, rfl, rfl, rfl⟩

theorem regFrame_decoOnStack (st : St) (d : Nat) : RegFrame st (st.modDeco d fun x => { x with state := .onStack }) :=
  regFrame_modDeco st d _ fun _ => ⟨rfl, rfl, rfl, rfl, rfl⟩

theorem regFrame_decoFinally (st : St) (d : Nat) :
    RegFrame st (st.modDeco d fun x => if x.state == .called then x else { x with state := .ready }) :=
  regFrame_modDeco st d _ fun x => by split <;> exact ⟨rfl, rfl, rfl, rfl, rfl⟩

theorem regFrame_of_same (a b : St) (h1 : a.scopes = b.scopes) (h2 : a.ctors = b.ctors) (h3 : a.decos = b.decos)
    (h4 : a.pgs = b.pgs) : RegFrame a b := by
  refine ⟨by rw [h1], ?_, h4, by rw [h2], ?_, by rw [h3], ?_⟩
  · intro i; simp only [St.scope, h1]; exact ScopeReg.refl _
  · intro i; simp only [St.ctor, h2]; exact CtorStatic.refl _
  · intro i; simp only [St.deco, h3]; exact DecoStatic.refl _

theorem extractSlots_reg (env : TyEnv) (deco : Bool) (r : Ret) (slots : List RSlot) (sc : ScopeSt) :
    ScopeReg sc (extractSlots env deco r sc slots) := by
  refine extractSlots_inv env deco r slots (ScopeReg sc) sc (fun sc' w _ h => h.trans ?_) (ScopeReg.refl _)
  cases w <;> exact ⟨rfl, rfl, rfl, rfl, rfl, rfl, rfl⟩

theorem regFrame_emit (st : St) (e : Event) : RegFrame st (st.emit e) :=
  regFrame_of_same _ _ rfl rfl rfl rfl

theorem regFrame_runCallback (cb : Option Nat) (who : Who) (fn start : Nat) (err : Option DErr) (st : St) :
    RegFrame st (runCallback cb who fn start err st) := by
  unfold runCallback
  split
  · exact regFrame_emit _ _
  · exact RegFrame.refl _

theorem regFrame_callBody (ctx : Ctx) (who : Who) (fn : Fn) (args : List Val) (st : St) :
    RegFrame st (callBody ctx who fn args st).2 := by
  obtain ⟨h1, h2, h3, h4⟩ := callBody_fields ctx who fn args st
  exact regFrame_of_same _ _ h1.symm h2.symm h3.symm h4.symm

theorem regFrame_extract (env : TyEnv) (deco : Bool) (ret : Ret) (s : Nat) (slots : List RSlot) (st : St) :
    RegFrame st (st.modScope s fun sc => extractSlots env deco ret sc slots) :=
  regFrame_modScope _ _ _ fun x => extractSlots_reg _ _ _ _ x

theorem regFrame_ctorCommit (ctx : Ctx) (n : Nat) (node : CtorNode) (r : BodyRes) (st : St) :
    RegFrame st (ctorCommit ctx n node r st) := by
  rw [ctorCommit_eq]
  split
  · exact (regFrame_extract ..).trans (regFrame_modCtor _ _ _ fun _ => ⟨rfl, rfl, rfl, rfl, rfl, rfl, rfl⟩)
  · exact RegFrame.refl _

theorem regFrame_decoCommit (ctx : Ctx) (d : Nat) (node : DecoNode) (r : BodyRes) (st : St) :
    RegFrame st (decoCommit ctx d node r st) := by
  rw [decoCommit_eq]
  split
  · exact (regFrame_extract ..).trans (regFrame_modDeco _ _ _ fun _ => ⟨rfl, rfl, rfl, rfl, rfl⟩)
  · exact RegFrame.refl _

theorem regFrame_ctorTail (ctx : Ctx) (st : St) (n : Nat) (node : CtorNode) (args : List Val) :
    RegFrame st (ctorTail ctx n node args st).2 := by
  unfold ctorTail
  exact (regFrame_callBody ctx (.ctor n) node.fn args st).trans
    ((regFrame_ctorCommit ctx n node _ _).trans (regFrame_runCallback _ _ _ _ _ _))

theorem regFrame_decoTail (ctx : Ctx) (st : St) (d : Nat) (node : DecoNode) (args : List Val) :
    RegFrame st (decoTail ctx d node args st).2 := by
  unfold decoTail
  exact (regFrame_callBody ctx (.deco d) node.fn args st).trans
    ((regFrame_decoCommit ctx d node _ _).trans (regFrame_runCallback _ _ _ _ _ _))

theorem regFrame_leaf (ctx : Ctx) : LeafRel ctx RegFrame where
  refl := RegFrame.refl
  trans := RegFrame.trans
  setOnStack st n := regFrame_onStack st n true
  clearOnStack st n := regFrame_onStack st n false
  ctorTail st n node args := regFrame_ctorTail ctx st n node args
  decoOnStack := regFrame_decoOnStack
  decoFinally := regFrame_decoFinally
  decoTail st d node args := regFrame_decoTail ctx st d node args

theorem buildList_regFrame (ctx : Ctx) (fuel : Nat) (ps : List Param) (c : Nat) (st : St) :
    RegFrame st (buildList ctx fuel ps c st).2 :=
  (engine_pres ctx (regFrame_leaf ctx) fuel).2.2.2.2.2 ps c st

/-! ### the log -/

def isCb : Event → Bool
  | .cb _ _ _ _ _ => true
  | _ => false

def Grows {α : Type} (P : α → Prop) (x y : List α) : Prop := ∃ l, y = x ++ l ∧ ∀ e ∈ l, P e

theorem Grows.refl {α : Type} (P : α → Prop) (x : List α) : Grows P x x := ⟨[], (List.append_nil x).symm, nofun⟩

theorem Grows.trans {α : Type} {P : α → Prop} {x y z : List α} (h1 : Grows P x y) (h2 : Grows P y z) : Grows P x z := by
  obtain ⟨l1, rfl, p1⟩ := h1
  obtain ⟨l2, rfl, p2⟩ := h2
  exact ⟨l1 ++ l2, List.append_assoc .., fun e he => (List.mem_append.1 he).elim (p1 e) (p2 e)⟩

def LogExt (P : Event → Bool) (a b : St) : Prop := Grows (P · = true) a.log b.log

theorem LogExt.refl (P : Event → Bool) (a : St) : LogExt P a a := Grows.refl _ _
theorem LogExt.trans {P : Event → Bool} {a b c : St} (h1 : LogExt P a b) (h2 : LogExt P b c) : LogExt P a c :=
  Grows.trans h1 h2

theorem logExt_of_log_eq {P : Event → Bool} (a b : St) (h : b.log = a.log) : LogExt P a b := ⟨[], by simp [h], by simp⟩

theorem logExt_emit {P : Event → Bool} (a : St) (e : Event) (h : P e = true) : LogExt P a (a.emit e) :=
  ⟨[e], rfl, by simp [h]⟩

theorem logExt_runCallback {P : Event → Bool} (hP : ∀ op who fn err rt, P (.cb op who fn err rt) = true)
    (cb : Option Nat) (who : Who) (fn start : Nat) (err : Option DErr) (st : St) :
    LogExt P st (runCallback cb who fn start err st) := by
  unfold runCallback
  split
  · exact logExt_emit _ _ (hP _ _ _ _ _)
  · exact LogExt.refl _ _

theorem modScope_log (st : St) (s : Nat) (f : ScopeSt → ScopeSt) : (st.modScope s f).log = st.log := rfl
theorem modCtor_log (st : St) (s : Nat) (f : CtorNode → CtorNode) : (st.modCtor s f).log = st.log := rfl
theorem modDeco_log (st : St) (s : Nat) (f : DecoNode → DecoNode) : (st.modDeco s f).log = st.log := rfl

theorem dryLog_tail (ctx : Ctx) (h : ctx.cfg.dry = true) (who : Who) (fn : Fn) (args : List Val) (st : St)
    (cb : Option Nat) (err : BodyRes → Option DErr) (commit : BodyRes → St → St) (hc : ∀ r s, (commit r s).log = s.log) :
    LogExt isCb st (runCallback cb who fn.id st.clock (err (callBody ctx who fn args st).1)
      (commit (callBody ctx who fn args st).1 (callBody ctx who fn args st).2)) := by
  rw [callBody_dry ctx h]
  exact (logExt_of_log_eq _ _ (hc _ _)).trans (logExt_runCallback (fun _ _ _ _ _ => rfl) _ _ _ _ _ _)

theorem dryLog_leaf (ctx : Ctx) (h : ctx.cfg.dry = true) : LeafRel ctx (LogExt isCb) where
  refl := LogExt.refl _
  trans := LogExt.trans
  setOnStack _ _ := logExt_of_log_eq _ _ rfl
  clearOnStack _ _ := logExt_of_log_eq _ _ rfl
  ctorTail st n node args := dryLog_tail ctx h (.ctor n) node.fn args st node.cb
    (fun r => (ctorOutcome ctx node.fn.id r).2) (ctorCommit ctx n node) fun r s => (ctorCommit_fields ctx n node r s).1
  decoOnStack _ _ := logExt_of_log_eq _ _ rfl
  decoFinally _ _ := logExt_of_log_eq _ _ rfl
  decoTail st d node args := dryLog_tail ctx h (.deco d) node.fn args st node.cb
    (fun r => (decoOutcome ctx node.fn.id r).2) (decoCommit ctx d node) fun r s => (decoCommit_fields ctx d node r s).1

theorem buildList_dry (ctx : Ctx) (h : ctx.cfg.dry = true) (fuel : Nat) (ps : List Param) (c : Nat) (st : St) :
    LogExt isCb st (buildList ctx fuel ps c st).2 :=
  (engine_pres ctx (dryLog_leaf ctx h) fuel).2.2.2.2.2 ps c st

end Dig
