import DigModel.Proofs.Deps
import DigModel.Proofs.RootCause
/-
  "A failure of the resolver is real": when the resolution stage of an Invoke fails with *missing type* there is a
  required (non-optional, single) parameter — of the invoked function or of a constructor or decorator reachable from
  it — for which no constructor is visible from the scope it is looked up from; when it fails with *cycle* there is a
  node that is needed to build its own arguments (a dependency cycle, decorators' parameters included).  Hence, with
  `invokeRun_allOk`: if every required dependency in the closure has a visible constructor, the closure has no
  dependency cycle and no user function fails, the resolution succeeds.

  The induction over the six resolver functions carries a pre-condition on the on-stack marks (`Stk`: whatever is
  being built is needed, transitively, by every constructor whose arguments are being built) and a post-condition
  (`AvPost`: the registry is the same, the marks are as before, an `error` has a real root cause).
-/
namespace Dig

def nodeParams (st : St) : Who → List Param
  | .ctor n => (st.ctor n).params
  | .deco d => (st.deco d).params
  | .invoked => []

/-- the scope the arguments of a node are built from -/
def nodeView (st : St) : Who → Nat
  | .ctor n => (st.ctor n).origS
  | .deco d => (st.deco d).s
  | .invoked => 0

/-- `w'` may be run while the arguments of `w` are built -/
def Below (st : St) (w w' : Who) : Prop := ∃ l ∈ leavesL (nodeParams st w), Reach st (nodeView st w) l w'

/-- the scopes from which the required parameters of a node are looked up: a constructor's own scope; for a decorator
    its scope and (`shallowCheckDependencies`) any scope that lists it -/
def CheckedFrom (st : St) : Who → Nat → Prop
  | .ctor n, c => c = (st.ctor n).origS
  | .deco d, c => c = (st.deco d).s ∨ ∃ k, aget (st.scope c).decorators k = some d
  | .invoked, _ => False

/-- node `w` has the required single parameter `k`, looked up from scope `c` -/
def ReqNode (st : St) (w : Who) (c : Nat) (k : Key) : Prop := k ∈ reqSinglesL (nodeParams st w) ∧ CheckedFrom st w c

/-- what a root cause says is true of the registry `st0`; `T` = the nodes the task may run, `D` = the task's own
    required keys -/
structure RealRoot (st0 : St) (T : Who → Prop) (D : Nat → Key → Prop) (r : DErr) : Prop where
  cyc : ∀ p s, r = .cycle p s → ∃ w, T w ∧ Below st0 w w
  mis : ∀ ks, r = .missingTypes ks → ks ≠ [] ∧
    ∀ k ∈ ks, ∃ c, st0.allProviders c k = [] ∧ (D c k ∨ ∃ w, T w ∧ ReqNode st0 w c k)

theorem RealRoot.mono {st0 : St} {T T' : Who → Prop} {D D' : Nat → Key → Prop} {r : DErr} (h : RealRoot st0 T' D' r)
    (hT : ∀ w, T' w → T w) (hD : ∀ c k, D' c k → D c k ∨ ∃ w, T w ∧ ReqNode st0 w c k) : RealRoot st0 T D r where
  cyc p s hr := by obtain ⟨w, hw, hb⟩ := h.cyc p s hr; exact ⟨w, hT w hw, hb⟩
  mis ks hr := by
    obtain ⟨hne, hall⟩ := h.mis ks hr
    refine ⟨hne, fun k hk => ?_⟩
    obtain ⟨c, hp, hd⟩ := hall k hk
    refine ⟨c, hp, ?_⟩
    rcases hd with hd | ⟨w, hw, hq⟩
    · exact hD c k hd
    · exact Or.inr ⟨w, hT w hw, hq⟩

theorem realRoot_other {st0 : St} {T : Who → Prop} {D : Nat → Key → Prop} {r : DErr}
    (h1 : ∀ p s, r ≠ .cycle p s) (h2 : ∀ ks, r ≠ .missingTypes ks) : RealRoot st0 T D r :=
  ⟨fun p s hr => absurd hr (h1 p s), fun ks hr => absurd hr (h2 ks)⟩

/-- what the resolver may return as an `error`: its root cause is real, and the optional-parameter rule of
    `paramSingle.Build` (which looks for `errMissingDependencies` in the chain) fires only for a missing type -/
def ErrOK (st0 : St) (T : Who → Prop) (D : Nat → Key → Prop) (e : DErr) : Prop :=
  RealRoot st0 T D e.rootCause ∧ (e.hasMissingDeps = true → ∃ ks, e.rootCause = .missingTypes ks)

theorem ErrOK.mono {st0 : St} {T T' : Who → Prop} {D D' : Nat → Key → Prop} {e : DErr} (h : ErrOK st0 T' D' e)
    (hT : ∀ w, T' w → T w) (hD : ∀ c k, D' c k → D c k ∨ ∃ w, T w ∧ ReqNode st0 w c k) : ErrOK st0 T D e :=
  ⟨h.1.mono hT hD, h.2⟩

/-! ### the on-stack marks -/

def SameStk (a b : St) : Prop := ∀ m, (b.ctor m).onStack = (a.ctor m).onStack

theorem SameStk.refl (a : St) : SameStk a a := fun _ => rfl
theorem SameStk.trans {a b c : St} (h1 : SameStk a b) (h2 : SameStk b c) : SameStk a c := fun m => (h2 m).trans (h1 m)
theorem SameStk.of_ctors {a b : St} (h : b.ctors = a.ctors) : SameStk a b := fun m => by simp [St.ctor, h]

/-- every constructor whose arguments are being built needs, transitively, whatever the task may run -/
def Stk (st0 st : St) (T : Who → Prop) : Prop :=
  ∀ m, (st.ctor m).onStack = true → ∀ w, T w → Below st0 (.ctor m) w

theorem Stk.same {st0 st s : St} {T : Who → Prop} (h : Stk st0 st T) (hs : SameStk st s) : Stk st0 s T :=
  fun m hm w hw => h m (by rw [← hs m]; exact hm) w hw

theorem Stk.mono {st0 st : St} {T T' : Who → Prop} (h : Stk st0 st T) (hT : ∀ w, T' w → T w) : Stk st0 st T' :=
  fun m hm w hw => h m hm w (hT w hw)

/-! ### the post-condition, as an outcome -/

def AvPost (st0 : St) (T : Who → Prop) (D : Nat → Key → Prop) (st : St) {α : Type} (r : Except Fail α × St) : Prop :=
  RegFrame st0 r.2 ∧ SameStk st r.2 ∧ ∀ e, r.1 = .error (.err e) → ErrOK st0 T D e

section
variable {st0 : St} {T : Who → Prop} {D : Nat → Key → Prop}

theorem AvPost.mono {T' : Who → Prop} {D' : Nat → Key → Prop} {st : St} {α : Type} {r : Except Fail α × St}
    (h : AvPost st0 T' D' st r) (hT : ∀ w, T' w → T w) (hD : ∀ c k, D' c k → D c k ∨ ∃ w, T w ∧ ReqNode st0 w c k) :
    AvPost st0 T D st r := ⟨h.1, h.2.1, fun e he => (h.2.2 e he).mono hT hD⟩

theorem AvPost.anchor {st s : St} {α : Type} {r : Except Fail α × St} (hs : SameStk st s) (h : AvPost st0 T D s r) :
    AvPost st0 T D st r := ⟨h.1, hs.trans h.2.1, h.2.2⟩

/-- the state part of `AvPost`, for a task started at `st` -/
def AvSt (st0 st s : St) : Prop := RegFrame st0 s ∧ SameStk st s

/-- what `AvPost` says of a failure -/
def AvErr (st0 : St) (T : Who → Prop) (D : Nat → Key → Prop) (f : Fail) : Prop := ∀ e, f = .err e → ErrOK st0 T D e

theorem avPost_iff {st : St} {α : Type} {r : Except Fail α × St} :
    AvPost st0 T D st r ↔ Sat r (fun _ => AvSt st0 st) (fun f s => AvSt st0 st s ∧ AvErr st0 T D f) := by
  rcases r with ⟨f | a, s⟩
  · exact ⟨fun h => ⟨⟨h.1, h.2.1⟩, fun e he => h.2.2 e (he ▸ rfl)⟩,
      fun h => ⟨h.1.1, h.1.2, fun e he => h.2 e (Except.error.inj he)⟩⟩
  · exact ⟨fun h => ⟨h.1, h.2.1⟩, fun h => ⟨h.1, h.2, nofun⟩⟩

/-- the outcome of a sub-task run from `s`, seen from a task that started at `st` and may run more -/
theorem AvPost.sat {T' : Who → Prop} {D' : Nat → Key → Prop} {st s : St} {α : Type} {r : Except Fail α × St}
    (h : AvPost st0 T' D' s r) (hs : SameStk st s) (hT : ∀ w, T' w → T w)
    (hD : ∀ c k, D' c k → D c k ∨ ∃ w, T w ∧ ReqNode st0 w c k) :
    Sat r (fun _ => AvSt st0 st) (fun f s => AvSt st0 st s ∧ AvErr st0 T D f) :=
  avPost_iff.1 ((h.mono hT hD).anchor hs)

theorem AvErr.err {e : DErr} (h : ErrOK st0 T D e) : AvErr st0 T D (.err e) := fun _ he => Fail.err.inj he ▸ h

theorem AvErr.other {f : Fail} (hf : ∀ e, f ≠ .err e) : AvErr st0 T D f := fun e he => absurd he (hf e)

theorem AvErr.wrap {w : DErr → DErr} (hw : Transparent w) {f : Fail} (h : AvErr st0 T D f) : AvErr st0 T D (f.wrap w) := by
  cases f with
  | err e =>
    refine .err ?_
    unfold ErrOK
    rw [hw.rootCause, hw.hasMissingDeps]
    exact h e rfl
  | _ => exact h

end

/-! ### leaf facts -/

theorem regFrame_allProviders {a b : St} (h : RegFrame a b) (c : Nat) (k : Key) :
    a.allProviders c k = b.allProviders c k := by
  unfold St.allProviders
  rw [regFrame_ancestors h c]
  congr 1
  funext s
  rw [(h.scopeReg s).providers]

theorem mem_missingOf (st : St) (c : Nat) (k : Key) (p : Param) :
    k ∈ missingOf st c p → k ∈ reqSingles p ∧ st.allProviders c k = [] := by
  apply missingOf.induct st c (motive_1 := fun p => k ∈ missingOf st c p → k ∈ reqSingles p ∧ st.allProviders c k = [])
    (motive_2 := fun ps => k ∈ missingOfList st c ps → k ∈ reqSinglesL ps ∧ st.allProviders c k = [])
  · intro k' opt hc hk
    simp only [missingOf, hc, if_true, List.mem_singleton] at hk
    subst hk
    simp only [Bool.and_eq_true, List.isEmpty_iff, Bool.not_eq_true'] at hc
    exact ⟨by simp [reqSingles, hc.2], hc.1.1⟩
  · intro k' opt hc hk
    simp only [missingOf, hc] at hk
    simp at hk
  · intro ty k' soft pg hk; simp [missingOf] at hk
  · intro ty fs ih hk
    simp only [missingOf] at hk
    simp only [reqSingles]
    exact ih hk
  · intro hk; simp [missingOfList] at hk
  · intro p ps ih1 ih2 hk
    simp only [missingOfList, List.mem_append] at hk
    simp only [reqSinglesL, List.mem_append]
    rcases hk with hk | hk
    · exact ⟨Or.inl (ih1 hk).1, (ih1 hk).2⟩
    · exact ⟨Or.inr (ih2 hk).1, (ih2 hk).2⟩

theorem mem_missingOfList (st : St) (c : Nat) (k : Key) : ∀ ps,
    k ∈ missingOfList st c ps → k ∈ reqSinglesL ps ∧ st.allProviders c k = []
  | [] => by intro hk; simp [missingOfList] at hk
  | p :: ps => by
    intro hk
    simp only [missingOfList, List.mem_append] at hk
    simp only [reqSinglesL, List.mem_append]
    rcases hk with hk | hk
    · exact ⟨Or.inl (mem_missingOf st c k p hk).1, (mem_missingOf st c k p hk).2⟩
    · exact ⟨Or.inr (mem_missingOfList st c k ps hk).1, (mem_missingOfList st c k ps hk).2⟩

/-- the shallow check leaves the state as it is; the keys it reports are required and have no constructor -/
theorem shallowCheck_avErr {st0 st : St} {T : Who → Prop} {D : Nat → Key → Prop} {I : St → Prop} (hI : I st)
    (h0 : RegFrame st0 st) (c : Nat) (ps : List Param)
    (hreq : ∀ k ∈ reqSinglesL ps, D c k ∨ ∃ w, T w ∧ ReqNode st0 w c k) :
    Sat (shallowCheck c ps st) (fun _ => I) (fun f s => I s ∧ AvErr st0 T D f) := by
  refine (shallowCheck_sat c ps st).mono (fun _ _ e => e ▸ hI) ?_
  rintro _ _ ⟨rfl, hne, rfl⟩
  refine ⟨hI, .err ⟨⟨fun p s hr => (nomatch hr), fun ks hr => ?_⟩, fun _ => ⟨_, rfl⟩⟩⟩
  cases hr
  refine ⟨hne, fun k hk => ?_⟩
  obtain ⟨h1, h2⟩ := mem_missingOfList _ c k ps hk
  exact ⟨c, by rw [regFrame_allProviders h0]; exact h2, hreq k h1⟩

/-- a user function's own failure says nothing of the registry -/
theorem Outcome.errOK {st0 : St} {T : Who → Prop} {D : Nat → Key → Prop} {ctx : Ctx} {f : Nat} {r : BodyRes} {e : DErr}
    (h : Outcome ctx f r (.error (.err e))) : ErrOK st0 T D e := by
  obtain ⟨hm, x, hr | hr⟩ := h.err_root
  · exact ⟨realRoot_other (by rw [hr]; nofun) (by rw [hr]; nofun), fun hh => by rw [hm] at hh; cases hh⟩
  · exact ⟨realRoot_other (by rw [hr]; nofun) (by rw [hr]; nofun), fun hh => by rw [hm] at hh; cases hh⟩

theorem avp_ctorTail {st0 st : St} {T : Who → Prop} {D : Nat → Key → Prop} (ctx : Ctx) (h0 : RegFrame st0 st) (n : Nat)
    (node : CtorNode) (args : List Val) : AvPost st0 T D st (ctorTail ctx n node args st) := by
  refine ⟨h0.trans (regFrame_ctorTail ctx st n node args), ?_, ?_⟩
  · intro m
    rw [ctorTail_ctor]
    split <;> rfl
  · intro e he
    exact (he ▸ ctorOutcome_spec ctx node.fn.id (callBody ctx (.ctor n) node.fn args st).1 :
      Outcome ctx node.fn.id _ (.error (.err e))).errOK

theorem avp_decoTail {st0 st : St} {T : Who → Prop} {D : Nat → Key → Prop} (ctx : Ctx) (h0 : RegFrame st0 st) (d : Nat)
    (node : DecoNode) (args : List Val) : AvPost st0 T D st (decoTail ctx d node args st) := by
  refine ⟨h0.trans (regFrame_decoTail ctx st d node args), SameStk.of_ctors (decoTail_ctors ctx d node args st), ?_⟩
  intro e he
  exact (he ▸ decoOutcome_spec ctx node.fn.id (callBody ctx (.deco d) node.fn args st).1 :
    Outcome ctx node.fn.id _ (.error (.err e))).errOK

theorem allProviders_nil_of (st : St) (c : Nat) (k : Key)
    (h : ∀ s ∈ st.ancestors c, agetL (st.scope s).providers k = []) : st.allProviders c k = [] := by
  unfold St.allProviders
  simp only [List.flatMap_eq_nil_iff]
  exact h

end Dig
