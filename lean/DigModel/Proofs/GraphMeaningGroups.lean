import DigModel.Proofs.GraphMeaningApi
/-
  Dependencies between the nodes of a holder: a constructor depends on the providers of its plain parameters and on the
  graph node of each of its value-group parameters, and that node depends on every visible provider of the group.
  A closed chain of such dependencies — in particular one among constructors only — is found by the scope's check.
-/
namespace Dig

mutual
def pSingleKeys : Param → List Key
  | .single k _ => [k]
  | .grouped _ _ _ _ => []
  | .object _ fs => pSingleKeysL fs
def pSingleKeysL : List Param → List Key
  | [] => []
  | p :: ps => pSingleKeys p ++ pSingleKeysL ps
end

def pgKey (st : St) (i : Nat) : Key :=
  { ty := (st.pgs.getD i default).desc.elem, name := "", group := (st.pgs.getD i default).desc.group }

inductive NodeDep (st : St) (s : Nat) : GNode → GNode → Prop where
  | single {n m : Nat} {k : Key} : k ∈ pSingleKeysL (st.ctor n).params → m ∈ st.allProviders s k →
      NodeDep st s (.ctor n) (.ctor m)
  | toGroup {n i : Nat} : i ∈ pgsOfL (st.ctor n).params → NodeDep st s (.ctor n) (.pg i)
  | fromGroup {i m : Nat} : m ∈ st.allProviders s (pgKey st i) → NodeDep st s (.pg i) (.ctor m)

/-- `getParamOrder` of a parameter list: the orders of the visible providers of its plain keys and of its group nodes -/
theorem mem_paramOrdersList (st : St) (s : Nat) : ∀ (ps : List Param) (v : Nat),
    v ∈ paramOrders.paramOrdersList st s ps ↔
      (∃ k ∈ pSingleKeysL ps, ∃ m ∈ st.allProviders s k, v = nodeOrder st (.ctor m) s) ∨
      (∃ i ∈ pgsOfL ps, v = nodeOrder st (.pg i) s) := by
  apply paramOrders.paramOrdersList.induct
    (motive_2 := fun p => ∀ v, v ∈ paramOrders st s p ↔
      (∃ k ∈ pSingleKeys p, ∃ m ∈ st.allProviders s k, v = nodeOrder st (.ctor m) s) ∨
      (∃ i ∈ pgsOf p, v = nodeOrder st (.pg i) s))
  · intro k opt v
    simp only [paramOrders, pSingleKeys, pgsOf, nodeOrder, List.mem_map, List.mem_singleton, List.not_mem_nil,
      false_and, exists_false, or_false, exists_eq_left, eq_comm (b := v)]
  · intro ty g soft pg v
    simp only [paramOrders, pSingleKeys, pgsOf, nodeOrder, List.mem_singleton, List.not_mem_nil, false_and,
      exists_false, false_or, exists_eq_left]
  · intro ty fs ih v; simpa only [paramOrders, pSingleKeys, pgsOf] using ih v
  · intro v
    simp only [paramOrders.paramOrdersList, pSingleKeysL, pgsOfL, List.not_mem_nil, false_and, exists_false, or_self]
  · intro p ps ihp ihps v
    simp only [paramOrders.paramOrdersList, pSingleKeysL, pgsOfL, List.mem_append, ihp v, ihps v, or_and_right, exists_or]
    exact or_or_or_comm

theorem nodeDep_edge {st : St} (h : GM0 st) (s : Nat) (x y : GNode) (hx : x ∈ (st.scope s).gh) (hd : NodeDep st s x y) :
    nodeOrder st y s ∈ edgesFrom st s (nodeOrder st x s) := by
  have hp := h.pos s x hx
  cases hd with
  | single hk hm => rw [edgesFrom_ctor hp, mem_paramOrdersList]; exact .inl ⟨_, hk, _, hm, rfl⟩
  | toGroup hi => rw [edgesFrom_ctor hp, mem_paramOrdersList]; exact .inr ⟨_, hi, rfl⟩
  | fromGroup hm => rw [edgesFrom_pg hp]; exact List.mem_map.mpr ⟨_, hm, rfl⟩

def NodeChain (st : St) (s : Nat) : List GNode → Prop
  | [] => True
  | [_] => True
  | a :: b :: rest => NodeDep st s a b ∧ NodeChain st s (b :: rest)

theorem nodeChain_walk {st : St} (h : GM0 st) (s : Nat) : ∀ (l : List GNode),
    (∀ x ∈ l, x ∈ (st.scope s).gh) → NodeChain st s l → Dfs.IsWalk (edgesFrom st s) (l.map fun x => nodeOrder st x s) := by
  intro l
  induction l with
  | nil => intro _ _; trivial
  | cons a rest ih =>
    intro hin hc
    cases rest with
    | nil => trivial
    | cons b rest =>
      exact ⟨nodeDep_edge h s a b (hin a List.mem_cons_self) hc.1, ih (fun x hx => hin x (List.mem_cons_of_mem _ hx)) hc.2⟩

/-- **a dependency cycle among the nodes of a scope's holder — through plain, named, optional, parameter-object or
    value-group edges — is found by that scope's check** -/
theorem node_cycle_is_found {st : St} (h : GM0 st) (ho : OB st) (s : Nat) (a : GNode) (l : List GNode)
    (hl : l ≠ []) (hin : ∀ x ∈ a :: l, x ∈ (st.scope s).gh) (hc : NodeChain st s (a :: l))
    (hclosed : (a :: l).getLast (by simp) = a) : ∃ p, checkAcyclic st s = .cycle p := by
  refine checkAcyclic_complete ho s (nodeOrder st a s) (l.map fun x => nodeOrder st x s) (by simpa using hl) ?_
    (nodeChain_walk h s (a :: l) hin hc) ?_
  · intro x hx
    obtain ⟨y, hy, rfl⟩ := List.mem_map.mp (show x ∈ (a :: l).map (nodeOrder st · s) from hx)
    exact h.pos_lt (hin y hy)
  · show ((a :: l).map (nodeOrder st · s)).getLast (by simp) = _
    rw [List.getLast_map, hclosed]

/-- as seen from scope `s`, constructor `n` depends directly on constructor `m`: one of `n`'s plain, named or optional
    parameters (possibly a field of a parameter object) has a key that `m` provides in `s` or in an ancestor of `s` -/
def DependsOn (st : St) (s n m : Nat) : Prop :=
  ∃ k ∈ pSingleKeysL (st.ctor n).params, m ∈ st.allProviders s k

def DepChain (st : St) (s : Nat) : List Nat → Prop
  | [] => True
  | [_] => True
  | a :: b :: rest => DependsOn st s a b ∧ DepChain st s (b :: rest)

theorem DepChain.nodeChain {st : St} {s : Nat} {l : List Nat} (h : DepChain st s l) : NodeChain st s (l.map .ctor) := by
  induction l with
  | nil => trivial
  | cons a rest ih =>
    cases rest with
    | nil => trivial
    | cons b rest =>
      obtain ⟨⟨_, hk, hm⟩, hc⟩ := h
      exact ⟨.single hk hm, ih hc⟩

/-- **a dependency cycle among constructors, seen from a scope, is found by that scope's check**: if, as seen from `s`,
    `n₀` depends on `n₁`, …, `n_r` depends on `n₀` (through plain, named or optional parameters at any depth of parameter
    objects, providers in `s` or any ancestor), all of them being nodes of `s`'s holder, then `graph.IsAcyclic`
    of that holder reports a cycle -/
theorem cycle_is_found {st : St} (h : GM0 st) (ho : OB st) (s : Nat) (a : Nat) (l : List Nat)
    (hl : l ≠ []) (hin : ∀ n ∈ a :: l, GNode.ctor n ∈ (st.scope s).gh) (hc : DepChain st s (a :: l))
    (hclosed : (a :: l).getLast (by simp) = a) : ∃ p, checkAcyclic st s = .cycle p := by
  refine node_cycle_is_found h ho s (.ctor a) (l.map .ctor) (by simpa using hl) ?_ hc.nodeChain ?_
  · intro x hx
    obtain ⟨n, hn, rfl⟩ := List.mem_map.mp (show x ∈ (a :: l).map GNode.ctor from hx)
    exact hin n hn
  · show ((a :: l).map GNode.ctor).getLast (by simp) = _
    rw [List.getLast_map, hclosed]

end Dig
