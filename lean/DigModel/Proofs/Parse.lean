import DigModel.Proofs.ApiLemmas
import DigModel.Proofs.AList
/-
  Parsing a signature for a scope (`newParamList(ftype, s)`) only adds value-group nodes to graph
  holders: every other part of the container is untouched.  The Info struct the last stage of Invoke answers.
-/
namespace Dig

def ScopeButGh (a b : ScopeSt) : Prop :=
  a.parent = b.parent ∧ a.children = b.children ∧ a.providers = b.providers ∧ a.decorators = b.decorators ∧
  a.values = b.values ∧ a.decoratedValues = b.decoratedValues ∧ a.groups = b.groups ∧
  a.decoratedGroups = b.decoratedGroups ∧ a.nodes = b.nodes ∧ a.verified = b.verified

def GhOnly (a b : St) : Prop :=
  a.ctors = b.ctors ∧ a.decos = b.decos ∧ a.hist = b.hist ∧ a.log = b.log ∧ a.execs = b.execs ∧ a.clock = b.clock ∧
  a.scopes.length = b.scopes.length ∧ ∀ j, ScopeButGh (a.scope j) (b.scope j)

theorem ScopeButGh.refl (a : ScopeSt) : ScopeButGh a a := ⟨rfl, rfl, rfl, rfl, rfl, rfl, rfl, rfl, rfl, rfl⟩
theorem ScopeButGh.trans {a b c : ScopeSt} (h1 : ScopeButGh a b) (h2 : ScopeButGh b c) : ScopeButGh a c := by
  obtain ⟨a1, a2, a3, a4, a5, a6, a7, a8, a9, a10⟩ := h1
  obtain ⟨b1, b2, b3, b4, b5, b6, b7, b8, b9, b10⟩ := h2
  exact ⟨a1.trans b1, a2.trans b2, a3.trans b3, a4.trans b4, a5.trans b5, a6.trans b6, a7.trans b7, a8.trans b8,
    a9.trans b9, a10.trans b10⟩

theorem GhOnly.refl (a : St) : GhOnly a a := ⟨rfl, rfl, rfl, rfl, rfl, rfl, rfl, fun _ => ScopeButGh.refl _⟩
theorem GhOnly.trans {a b c : St} (h1 : GhOnly a b) (h2 : GhOnly b c) : GhOnly a c := by
  obtain ⟨a1, a2, a3, a4, a5, a6, a7, a8⟩ := h1
  obtain ⟨b1, b2, b3, b4, b5, b6, b7, b8⟩ := h2
  exact ⟨a1.trans b1, a2.trans b2, a3.trans b3, a4.trans b4, a5.trans b5, a6.trans b6, a7.trans b7,
    fun j => (a8 j).trans (b8 j)⟩

section
variable {a b : St} {x y : ScopeSt}
theorem GhOnly.ctors (h : GhOnly a b) : a.ctors = b.ctors := h.1
theorem GhOnly.decos (h : GhOnly a b) : a.decos = b.decos := h.2.1
theorem GhOnly.hist (h : GhOnly a b) : a.hist = b.hist := h.2.2.1
theorem GhOnly.execs (h : GhOnly a b) : a.execs = b.execs := h.2.2.2.2.1
theorem GhOnly.scopesLen (h : GhOnly a b) : a.scopes.length = b.scopes.length := h.2.2.2.2.2.2.1
theorem GhOnly.scope (h : GhOnly a b) (j : Nat) : ScopeButGh (a.scope j) (b.scope j) := h.2.2.2.2.2.2.2 j
theorem ScopeButGh.providers (h : ScopeButGh x y) : x.providers = y.providers := h.2.2.1
theorem ScopeButGh.decorators (h : ScopeButGh x y) : x.decorators = y.decorators := h.2.2.2.1
theorem ScopeButGh.verified (h : ScopeButGh x y) : x.verified = y.verified := h.2.2.2.2.2.2.2.2.2
end

theorem ghOnly_newPG (st : St) (s i : Nat) : GhOnly st (st.newGraphNode s (.pg i)) := by
  unfold St.newGraphNode
  generalize st.subscopes s = l
  induction l generalizing st with
  | nil => exact GhOnly.refl st
  | cons x xs ih =>
    simp only [List.foldl_cons]
    refine GhOnly.trans ?_ (ih _)
    refine ⟨rfl, rfl, rfl, rfl, rfl, rfl, ?_, ?_⟩
    · simp [St.modScope]
    · intro j
      show ScopeButGh (st.scope j) ((st.modScope x _).scope j)
      rw [scope_modScope]
      split
      · exact ⟨rfl, rfl, rfl, rfl, rfl, rfl, rfl, rfl, rfl, rfl⟩
      · exact ScopeButGh.refl _

theorem ghOnly_addPGNodes (st : St) (s oldLen : Nat) (descs : List PGDesc) : GhOnly st (addPGNodes st s oldLen descs) := by
  unfold addPGNodes
  simp only
  generalize (List.range (descs.length - oldLen)) = l
  have h0 : GhOnly st { st with pgs := st.pgs ++ List.map (fun d => ({ desc := d } : PGNode)) (List.drop oldLen descs) } :=
    ⟨rfl, rfl, rfl, rfl, rfl, rfl, rfl, fun _ => ScopeButGh.refl _⟩
  refine GhOnly.trans h0 ?_
  generalize ({ st with pgs := st.pgs ++ List.map (fun d => ({ desc := d } : PGNode)) (List.drop oldLen descs) } : St) = st1
  induction l generalizing st1 with
  | nil => exact GhOnly.refl _
  | cons x xs ih =>
    simp only [List.foldl_cons]
    exact GhOnly.trans (ghOnly_newPG st1 s _) (ih _)

theorem ghOnly_parseParams (env : TyEnv) (st : St) (s : Nat) (fn : Fn) : GhOnly st (parseParams env st s fn).2 := by
  unfold parseParams
  exact ghOnly_addPGNodes _ _ _ _

theorem invokeRun_info {ctx : Ctx} {fn : Fn} {params : List Param} {s : Nat} {info : Bool} {w : St} {inf : InfoOut}
    (h : (invokeRun ctx fn params s info w).2.info = some inf) :
    inf = { id := 0, ins := dotParams params, outs := [] } := by
  unfold invokeRun at h
  generalize EM.wrapErr _ _ _ = r at h
  rcases r with ⟨_ | args, w'⟩
  · cases h
  · cases info
    · cases h
    · exact (Option.some.inj h).symm

end Dig
