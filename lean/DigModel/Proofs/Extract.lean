import DigModel.Engine
import DigModel.Proofs.AList
/-
  Extraction as a list of cache writes.  `writes env deco slots` lists, in order, the single writes that
  `extractSlots env deco r sc slots` makes into the four caches of `sc`; `extractSlots_eq_foldl` says that extraction
  is the fold of `CW.apply` over them.  A fact about extraction is then one induction over that list with a case for
  each kind of write (`extractSlots_inv`, `extractSlots_rel`).
-/
namespace Dig

inductive CW where
  | val (k : Key) (slot decl : Nat)
  | grp (k : Key) (slot decl : Nat) (fl : Bool)
  | dval (k : Key) (slot decl : Nat)
  | dgrp (k : Key) (slot decl : Nat)

def CW.apply (env : TyEnv) (r : Ret) (sc : ScopeSt) : CW → ScopeSt
  | .val k slot decl => { sc with values := aset sc.values k (r.val env slot decl) }
  | .grp k slot decl fl =>
    { sc with groups := submitAll sc.groups k (if fl then elemsOf (r.val env slot decl) else [r.val env slot decl]) }
  | .dval k slot decl => { sc with decoratedValues := aset sc.decoratedValues k (r.val env slot decl) }
  | .dgrp k slot decl => { sc with decoratedGroups := aset sc.decoratedGroups k (r.val env slot decl) }

mutual
def resultWrites : Result → List CW
  | .single slot decl ty name as => (ty :: as).map fun t => .val { ty := t, name := name, group := "" } slot decl
  | .grouped slot decl ty group flatten as =>
    if flatten then [.grp { ty := ty, name := "", group := group } slot decl true]
    else (ty :: as).map fun t => .grp { ty := t, name := "", group := group } slot decl false
  | .object _ fs => resultWritesL fs
def resultWritesL : List Result → List CW
  | [] => []
  | x :: xs => resultWrites x ++ resultWritesL xs
end

mutual
def decoWrites (env : TyEnv) : Result → List CW
  | .single slot decl ty name _ => [.dval { ty := ty, name := name, group := "" } slot decl]
  | .grouped slot decl ty group _ _ => [.dgrp { ty := (elemOfId env ty).getD 0, name := "", group := group } slot decl]
  | .object _ fs => decoWritesL env fs
def decoWritesL (env : TyEnv) : List Result → List CW
  | [] => []
  | x :: xs => decoWrites env x ++ decoWritesL env xs
end

def writes (env : TyEnv) (deco : Bool) : List RSlot → List CW
  | [] => []
  | .err :: rest => writes env deco rest
  | .val x :: rest => (if deco then decoWrites env x else resultWrites x) ++ writes env deco rest

theorem foldl_apply_map (env : TyEnv) (r : Ret) {α β : Type} (c : α → CW) (get : ScopeSt → β) (set : ScopeSt → β → ScopeSt)
    (f : β → α → β) (hc : ∀ sc a, CW.apply env r sc (c a) = set sc (f (get sc) a))
    (hgs : ∀ sc b, get (set sc b) = b) (hss : ∀ sc b b', set (set sc b) b' = set sc b') (hsg : ∀ sc, set sc (get sc) = sc) :
    ∀ (l : List α) (sc : ScopeSt), (l.map c).foldl (CW.apply env r) sc = set sc (l.foldl f (get sc)) := by
  intro l
  induction l with
  | nil => intro sc; exact (hsg sc).symm
  | cons a as ih => intro sc; simp only [List.map_cons, List.foldl_cons]; rw [ih, hc, hgs, hss]

theorem extractResult_eq_foldl (env : TyEnv) (r : Ret) (sc : ScopeSt) (x : Result) :
    extractResult env r sc x = (resultWrites x).foldl (CW.apply env r) sc := by
  apply extractResult.induct env r (fun sc x => extractResult env r sc x = (resultWrites x).foldl (CW.apply env r) sc)
    (fun sc xs => extractResults env r sc xs = (resultWritesL xs).foldl (CW.apply env r) sc)
  · intro sc slot decl ty name as
    simp only [extractResult, resultWrites]
    exact (foldl_apply_map env r _ (·.values) (fun sc b => { sc with values := b }) _ (fun _ _ => rfl) (fun _ _ => rfl)
      (fun _ _ _ => rfl) (fun _ => rfl) (ty :: as) sc).symm
  · intro sc slot decl ty group as
    simp only [extractResult, resultWrites, if_true, List.foldl_cons, List.foldl_nil, CW.apply]
  · intro sc slot decl ty group flatten as hf
    simp only [extractResult, resultWrites, hf]
    exact (foldl_apply_map env r (fun t => .grp { ty := t, name := "", group := group } slot decl false) (·.groups)
      (fun sc b => { sc with groups := b }) (fun m t => submitAll m { ty := t, name := "", group := group } [r.val env slot decl])
      (fun _ _ => rfl) (fun _ _ => rfl)
      (fun _ _ _ => rfl) (fun _ => rfl) (ty :: as) sc).symm
  · intro sc ty fs ih; simp only [extractResult, resultWrites]; exact ih
  · intro sc; simp only [extractResults, resultWritesL, List.foldl_nil]
  · intro sc x xs ih1 ih2; simp only [extractResults, resultWritesL, List.foldl_append]; rw [ih2, ih1]

theorem extractDeco_eq_foldl (env : TyEnv) (r : Ret) (sc : ScopeSt) (x : Result) :
    extractDeco env r sc x = (decoWrites env x).foldl (CW.apply env r) sc := by
  apply extractDeco.induct env r (fun sc x => extractDeco env r sc x = (decoWrites env x).foldl (CW.apply env r) sc)
    (fun sc xs => extractDecos env r sc xs = (decoWritesL env xs).foldl (CW.apply env r) sc)
  · intro sc slot decl ty name as; simp only [extractDeco, decoWrites, List.foldl_cons, List.foldl_nil, CW.apply]
  · intro sc slot decl ty group f as; simp only [extractDeco, decoWrites, List.foldl_cons, List.foldl_nil, CW.apply]
  · intro sc ty fs ih; simp only [extractDeco, decoWrites]; exact ih
  · intro sc; simp only [extractDecos, decoWritesL, List.foldl_nil]
  · intro sc x xs ih1 ih2; simp only [extractDecos, decoWritesL, List.foldl_append]; rw [ih2, ih1]

theorem extractSlots_eq_foldl (env : TyEnv) (deco : Bool) (r : Ret) : ∀ (slots : List RSlot) (sc : ScopeSt),
    extractSlots env deco r sc slots = (writes env deco slots).foldl (CW.apply env r) sc := by
  intro slots
  induction slots with
  | nil => intro sc; rfl
  | cons s rest ih =>
    intro sc
    cases s with
    | err => simp only [extractSlots, writes]; exact ih sc
    | val x =>
      simp only [extractSlots, writes, List.foldl_append]
      rw [ih]
      cases deco
      · simp only [Bool.false_eq_true, if_false]; rw [extractResult_eq_foldl]
      · simp only [if_true]; rw [extractDeco_eq_foldl]

def CW.deco : CW → Bool
  | .val .. => false
  | .grp .. => false
  | .dval .. => true
  | .dgrp .. => true

theorem resultWrites_deco (x : Result) : ∀ w ∈ resultWrites x, w.deco = false := by
  apply decoWrites.induct (fun x => ∀ w ∈ resultWrites x, w.deco = false) (fun xs => ∀ w ∈ resultWritesL xs, w.deco = false)
  · intro slot decl ty name as w hw
    obtain ⟨t, _, rfl⟩ := List.mem_map.mp hw; rfl
  · intro slot decl ty group flatten as w hw
    simp only [resultWrites] at hw
    split at hw
    · cases List.mem_singleton.mp hw; rfl
    · obtain ⟨t, _, rfl⟩ := List.mem_map.mp hw; rfl
  · intro ty fs ih w hw; simp only [resultWrites] at hw; exact ih w hw
  · intro w hw; cases hw
  · intro x xs ih1 ih2 w hw
    simp only [resultWritesL, List.mem_append] at hw
    exact hw.elim (ih1 w) (ih2 w)

theorem decoWrites_deco (env : TyEnv) (x : Result) : ∀ w ∈ decoWrites env x, w.deco = true := by
  apply decoWrites.induct (fun x => ∀ w ∈ decoWrites env x, w.deco = true) (fun xs => ∀ w ∈ decoWritesL env xs, w.deco = true)
  · intro slot decl ty name as w hw; cases List.mem_singleton.mp hw; rfl
  · intro slot decl ty group f as w hw; cases List.mem_singleton.mp hw; rfl
  · intro ty fs ih w hw; simp only [decoWrites] at hw; exact ih w hw
  · intro w hw; cases hw
  · intro x xs ih1 ih2 w hw
    simp only [decoWritesL, List.mem_append] at hw
    exact hw.elim (ih1 w) (ih2 w)

theorem writes_deco (env : TyEnv) (deco : Bool) : ∀ (slots : List RSlot), ∀ w ∈ writes env deco slots, w.deco = deco := by
  intro slots
  induction slots with
  | nil => intro w hw; cases hw
  | cons s rest ih =>
    intro w hw
    cases s with
    | err => exact ih w hw
    | val x =>
      simp only [writes, List.mem_append] at hw
      rcases hw with hw | hw
      · cases deco
        · exact resultWrites_deco x w hw
        · exact decoWrites_deco env x w hw
      · exact ih w hw

theorem foldl_inv {α β : Type} (f : β → α → β) (P : β → Prop) : ∀ (l : List α) (b : β),
    (∀ b, ∀ a ∈ l, P b → P (f b a)) → P b → P (l.foldl f b) := by
  intro l
  induction l with
  | nil => intro b _ h0; exact h0
  | cons a as ih =>
    intro b h h0
    exact ih _ (fun b a' ha' => h b a' (List.mem_cons_of_mem _ ha')) (h b a List.mem_cons_self h0)

theorem extractSlots_inv (env : TyEnv) (deco : Bool) (r : Ret) (slots : List RSlot) (P : ScopeSt → Prop) (sc : ScopeSt)
    (h : ∀ sc, ∀ w ∈ writes env deco slots, P sc → P (CW.apply env r sc w)) (h0 : P sc) :
    P (extractSlots env deco r sc slots) := by
  rw [extractSlots_eq_foldl]; exact foldl_inv _ P _ sc h h0

theorem foldl_rel {α β γ : Type} (f : β → α → β) (g : γ → α → γ) (R : β → γ → Prop) : ∀ (l : List α) (b : β) (c : γ),
    (∀ b c, ∀ a ∈ l, R b c → R (f b a) (g c a)) → R b c → R (l.foldl f b) (l.foldl g c) := by
  intro l
  induction l with
  | nil => intro b c _ h0; exact h0
  | cons a as ih =>
    intro b c h h0
    exact ih _ _ (fun b c a' ha' => h b c a' (List.mem_cons_of_mem _ ha')) (h b c a List.mem_cons_self h0)

theorem extractSlots_rel (env : TyEnv) (deco : Bool) (r r' : Ret) (slots : List RSlot) (R : ScopeSt → ScopeSt → Prop)
    (sc sc' : ScopeSt) (h : ∀ sc sc', ∀ w ∈ writes env deco slots, R sc sc' → R (CW.apply env r sc w) (CW.apply env r' sc' w))
    (h0 : R sc sc') : R (extractSlots env deco r sc slots) (extractSlots env deco r' sc' slots) := by
  rw [extractSlots_eq_foldl, extractSlots_eq_foldl]; exact foldl_rel _ _ R _ sc sc' h h0

/-! ### the three caches that hold one value for a key, after a list of writes -/

inductive Cache where
  | values | dvalues | dgroups

def Cache.get : Cache → ScopeSt → List (Key × Val)
  | .values, sc => sc.values
  | .dvalues, sc => sc.decoratedValues
  | .dgroups, sc => sc.decoratedGroups

def Cache.cw : Cache → Key → Nat → Nat → CW
  | .values => .val
  | .dvalues => .dval
  | .dgroups => .dgrp

theorem CW.apply_cw (env : TyEnv) (r : Ret) (sc : ScopeSt) (c : Cache) (k : Key) (slot decl : Nat) :
    c.get (CW.apply env r sc (c.cw k slot decl)) = aset (c.get sc) k (r.val env slot decl) := by
  cases c <;> rfl

theorem CW.apply_get (env : TyEnv) (r : Ret) (sc : ScopeSt) (c : Cache) (w : CW) :
    (∃ k slot decl, w = c.cw k slot decl) ∨ c.get (CW.apply env r sc w) = c.get sc := by
  cases w with
  | val k slot decl =>
    cases c with
    | values => exact Or.inl ⟨k, slot, decl, rfl⟩
    | dvalues => exact Or.inr rfl
    | dgroups => exact Or.inr rfl
  | grp => cases c <;> exact Or.inr rfl
  | dval k slot decl =>
    cases c with
    | values => exact Or.inr rfl
    | dvalues => exact Or.inl ⟨k, slot, decl, rfl⟩
    | dgroups => exact Or.inr rfl
  | dgrp k slot decl =>
    cases c with
    | values => exact Or.inr rfl
    | dvalues => exact Or.inr rfl
    | dgroups => exact Or.inl ⟨k, slot, decl, rfl⟩

theorem isSome_aset_keep {β : Type} (m : List (Key × β)) (k k' : Key) (v : β) (h : (aget m k').isSome = true) :
    (aget (aset m k v) k').isSome = true := by
  rw [aget_aset]; split
  · rfl
  · exact h

theorem foldl_apply_keeps (env : TyEnv) (r : Ret) (c : Cache) (ws : List CW) (sc : ScopeSt) (k : Key)
    (h : (aget (c.get sc) k).isSome = true) : (aget (c.get (ws.foldl (CW.apply env r) sc)) k).isSome = true := by
  refine foldl_inv _ (fun sc => (aget (c.get sc) k).isSome = true) ws sc (fun sc w _ h => ?_) h
  rcases CW.apply_get env r sc c w with ⟨k', slot, decl, rfl⟩ | he
  · rw [CW.apply_cw]; exact isSome_aset_keep _ _ _ _ h
  · rw [he]; exact h

theorem foldl_apply_written (env : TyEnv) (r : Ret) (c : Cache) (k : Key) (slot decl : Nat) : ∀ (ws : List CW) (sc : ScopeSt),
    c.cw k slot decl ∈ ws → (aget (c.get (ws.foldl (CW.apply env r) sc)) k).isSome = true := by
  intro ws
  induction ws with
  | nil => intro sc h; cases h
  | cons w ws ih =>
    intro sc h
    rcases List.mem_cons.mp h with rfl | h
    · exact foldl_apply_keeps env r c ws _ k (by rw [CW.apply_cw, aget_aset_self]; rfl)
    · exact ih _ h

theorem foldl_apply_from (env : TyEnv) (r : Ret) (c : Cache) : ∀ (ws : List CW) (sc : ScopeSt) (k : Key) (v : Val),
    aget (c.get (ws.foldl (CW.apply env r) sc)) k = some v →
      aget (c.get sc) k = some v ∨ ∃ slot decl, c.cw k slot decl ∈ ws ∧ v = r.val env slot decl := by
  intro ws
  induction ws with
  | nil => intro sc k v h; exact Or.inl h
  | cons w ws ih =>
    intro sc k v h
    rcases ih _ k v h with h1 | ⟨slot, decl, hm, hv⟩
    · rcases CW.apply_get env r sc c w with ⟨k', slot, decl, rfl⟩ | he
      · rw [CW.apply_cw, aget_aset] at h1
        split at h1
        · rename_i hk; cases hk; cases h1
          exact Or.inr ⟨slot, decl, List.mem_cons_self, rfl⟩
        · exact Or.inl h1
      · rw [he] at h1; exact Or.inl h1
    · exact Or.inr ⟨slot, decl, List.mem_cons_of_mem _ hm, hv⟩

end Dig
