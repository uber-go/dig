import DigModel.Proofs.VerInv
import DigModel.Proofs.CtxCongr
/-
  Two containers that differ only in their `isVerifiedAcyclic` flags, both with honest flags (`VA`), answer every
  operation sequence identically — in either verification mode.  This is what makes "equal up to the flags"
  (the conclusion of `C06_provide_unchanged`) mean "indistinguishable for every later operation".
-/
namespace Dig

theorem checkAcyclic_eqV {a b : St} (h : EqButVerified a b) (s : Nat) : checkAcyclic b s = checkAcyclic a s :=
  ((graphSame_of_eqButVerified h).checkAcyclic s).symm

theorem EA.eqV {a b : St} (h : EA a) (hab : EqButVerified a b) : EA b := h.graphSame (graphSame_of_eqButVerified hab)

theorem cyclePath_eqV {a b : St} (h : EqButVerified a b) (s : Nat) (p : List Nat) : cyclePath b s p = cyclePath a s p := by
  unfold cyclePath
  rw [(graphSame_of_eqButVerified h).gh s]

theorem rollbackProvide_vset0 (g : Nat → Bool) (st0 w : St) (target : Nat) (scopes : List Nat) :
    rollbackProvide (vset g st0) w target scopes = rollbackProvide st0 w target scopes := by
  unfold rollbackProvide
  have hfun : (fun (w : St) sc => w.modScope sc fun x => { x with gh := x.gh.take ((vset g st0).scope sc).gh.length }) =
      (fun (w : St) sc => w.modScope sc fun x => { x with gh := x.gh.take (st0.scope sc).gh.length }) := by
    funext w sc
    rw [vset_read (·.gh) (fun _ _ => rfl) g st0 sc]
  simp only [hfun, vset_read (·.providers) (fun _ _ => rfl) g st0 target]
  rfl

theorem eqV_verifyRel : VerifyRel EqButVerified where
  graph := graphSame_of_eqButVerified
  subscopes h s := by
    obtain ⟨g, rfl⟩ := eqV_exists_vset h
    rw [vset_subscopes]
  flag h sc v := ((eqV_modFlag v _ sc).symm'.trans' h).trans' (eqV_modFlag v _ sc)
  nodes h sc n := by
    obtain ⟨g, rfl⟩ := eqV_exists_vset h
    rw [vset_modScope g _ sc _ (fun _ _ => rfl)]
    exact vset_eqV g _
  rollback h hw t l := by
    obtain ⟨g, rfl⟩ := eqV_exists_vset h
    obtain ⟨g2, rfl⟩ := eqV_exists_vset hw
    rw [rollbackProvide_vset0, ← rollbackProvide_vset0 g2 _ (vset g2 _), vset_rollbackProvide]
    exact vset_eqV g2 _

theorem invokeCheck_sim {a b : St} (hab : EqButVerified a b) (ha : VA a) (hb : VA b) (s : Nat) (hs : s < a.scopes.length) :
    (∃ wa wb, invokeCheck a s = .ok wa ∧ invokeCheck b s = .ok wb ∧ EqButVerified wa wb) ∨
    (∃ v, invokeCheck a s = .error v ∧ invokeCheck b s = .error v) := by
  have hsb : s < b.scopes.length := by rw [← hab.scopesLen]; exact hs
  have hck := checkAcyclic_eqV hab s
  have hcp := cyclePath_eqV hab s
  unfold invokeCheck
  cases hfa : (a.scope s).verified with
  | true =>
    cases hfb : (b.scope s).verified with
    | true => exact Or.inl ⟨a, b, by simp, by simp, hab⟩
    | false =>
      have hac := ha s hs hfa
      rw [hck, hac]
      exact Or.inl ⟨a, _, by simp, by simp, hab.trans' (eqV_modFlag true b s)⟩
  | false =>
    cases hfb : (b.scope s).verified with
    | true =>
      have hbc := hb s hsb hfb
      rw [hck] at hbc
      rw [hbc]
      exact Or.inl ⟨_, b, by simp, by simp, (eqV_modFlag true a s).symm'.trans' hab⟩
    | false =>
      rw [hck]
      cases hca : checkAcyclic a s with
      | acyclic =>
        exact Or.inl ⟨_, _, by simp, by simp, ((eqV_modFlag true a s).symm'.trans' hab).trans' (eqV_modFlag true b s)⟩
      | cycle p => exact Or.inr ⟨.err (.invalid (.cycle (cyclePath a s p) s)), by simp, by simp [hcp]⟩
      | outOfRange => exact Or.inr ⟨.panicDig, by simp, by simp⟩
      | fuel => exact Or.inr ⟨.panicDig, by simp, by simp⟩

theorem CtxSame.rfl' (ctx : Ctx) : CtxSame ctx ctx := ⟨rfl, rfl, rfl, rfl, rfl, rfl⟩

theorem engineFuel_vset (g : Nat → Bool) (st : St) (ps : List Param) : engineFuel (vset g st) ps = engineFuel st ps := rfl

theorem invokeRun_vset (g : Nat → Bool) {ctx ctx' : Ctx} (hc : CtxSame ctx ctx') (fn : Fn) (params : List Param) (s : Nat)
    (info : Bool) (w : St) :
    invokeRun ctx' fn params s info (vset g w) =
      (vset g (invokeRun ctx fn params s info w).1, (invokeRun ctx fn params s info w).2) := by
  unfold invokeRun
  rw [engineFuel_vset, (engine_ctx hc _).2.2.2.2.2]
  have hb := comm_wrapErr g DErr.argsFailed ((comm_engine g ctx (engineFuel w params)).2.2.2.2.2 params s) w
  rw [hb]
  cases hbl : EM.wrapErr (buildList ctx (engineFuel w params) params s) DErr.argsFailed w with
  | mk r4 w4 =>
    cases r4 with
    | error f => rfl
    | ok args =>
      simp only
      rw [callBody_ctx hc, vset_callBody, hc.recover]
      cases callBody ctx .invoked fn args w4 with
      | mk r5 w5 => rfl

theorem invoke_simV {a b : St} (hab : EqButVerified a b) {ctx ctx' : Ctx} (hc : CtxSame ctx ctx') (fn : Fn) (s : Nat)
    (hs : s < a.scopes.length) (info : Bool) (hva : VA (Dig.parseParams ctx.env a s fn).2)
    (hvb : VA (Dig.parseParams ctx.env b s fn).2) :
    (apiInvoke ctx' fn b s info).2 = (apiInvoke ctx fn a s info).2 ∧
    EqButVerified (apiInvoke ctx fn a s info).1 (apiInvoke ctx' fn b s info).1 := by
  obtain ⟨g, rfl⟩ := eqV_exists_vset hab
  rw [apiInvoke_eq, apiInvoke_eq]
  unfold apiInvoke'
  cases fn.nonfunc with
  | some _ => exact ⟨rfl, hab⟩
  | none =>
    simp only [vset_subscopes]
    rw [hc.env]
    rw [vset_parseParams] at hvb ⊢
    have hlen := (grow_parseParams ctx.env a s fn).len
    cases hpp : Dig.parseParams ctx.env a s fn with
    | mk r w =>
      rw [hpp] at hva hvb hlen
      simp only at hva hvb hlen
      cases r with
      | error e =>
        simp only
        rw [vset_rollbackProvide]
        exact ⟨trivial, vset_eqV g _⟩
      | ok params =>
        simp only
        unfold shallowCheck
        rw [← (vset_reads g).missingOfList ⟨rfl, trivial⟩ s params]
        cases missingOfList w s params with
        | cons k ks => exact ⟨rfl, vset_eqV g _⟩
        | nil =>
          simp only
          rcases invokeCheck_sim (vset_eqV g w) hva hvb s (by rw [hlen]; exact hs) with ⟨wa, wb, hwa, hwb, hab'⟩ | ⟨v, hwa, hwb⟩
          · rw [hwa, hwb]
            simp only
            obtain ⟨g2, rfl⟩ := eqV_exists_vset hab'
            rw [invokeRun_vset g2 hc]
            exact ⟨rfl, vset_eqV g2 _⟩
          · rw [hwa, hwb]
            exact ⟨rfl, vset_eqV g _⟩

theorem provide_simV {a b : St} (hab : EqButVerified a b) (ctx : Ctx) (fn : Fn) (i s : Nat) (o : ProvideOpts) :
    (apiProvide ctx fn b i s o).2 = (apiProvide ctx fn a i s o).2 ∧
    EqButVerified (apiProvide ctx fn a i s o).1 (apiProvide ctx fn b i s o).1 := by
  obtain ⟨g, rfl⟩ := eqV_exists_vset hab
  obtain ⟨h1, h2⟩ := apiProvide_rel eqV_verifyRel (ctx₁ := ctx) (ctx₂ := ctx) rfl fn i s o hab
    (remap_regStage id (verified_regBlind g) (vset_eqV g) ctx fn a i s o)
  exact ⟨h2.symm, h1⟩

theorem decorate_simV {a b : St} (hab : EqButVerified a b) (ctx : Ctx) (fn : Fn) (i s : Nat) (cb info : Bool) :
    (apiDecorate ctx fn b i s cb info).2 = (apiDecorate ctx fn a i s cb info).2 ∧
    EqButVerified (apiDecorate ctx fn a i s cb info).1 (apiDecorate ctx fn b i s cb info).1 := by
  obtain ⟨g, rfl⟩ := eqV_exists_vset hab
  rw [vset_apiDecorate]
  exact ⟨rfl, vset_eqV g _⟩

theorem VInv.resetLog {cfg : Cfg} {st : St} (h : VInv cfg st) : VInv cfg { st with log := [] } :=
  ⟨h.gt.resetLog, h.pg.resetLog, h.ob.resetLog, h.va.resetLog, fun hd => (h.ea hd).resetLog⟩

/-- equal up to the flags and up to the per-operation log (which every operation clears first) -/
def EqV0 (a b : St) : Prop := EqButVerified { a with log := [] } { b with log := [] }

theorem EqV0.of_eqV {a b : St} (h : EqButVerified a b) : EqV0 a b := eqV_resetLog h

theorem step_simV {a b : St} (hab0 : EqV0 a b) (ctx : Ctx) (ha : VInv ctx.cfg a) (hb : VInv ctx.cfg b)
    (fns : List Fn) (i : Nat) (op : Op) :
    (Dig.step ctx fns b i op).2 = (Dig.step ctx fns a i op).2 ∧
    EqButVerified (Dig.step ctx fns a i op).1 (Dig.step ctx fns b i op).1 := by
  have ha0 := ha.resetLog
  have hb0 := hb.resetLog
  have hlen : a.scopes.length = b.scopes.length := hab0.scopesLen
  have hreg : ∀ {x y : St × RegRes}, y.2 = x.2 ∧ EqButVerified x.1 y.1 →
      (y.1, y.2.toOpRes).2 = (x.1, x.2.toOpRes).2 ∧ EqButVerified x.1 y.1 := fun h => ⟨congrArg RegRes.toOpRes h.1, h.2⟩
  exact step_rel fns hlen i op (P := fun x y => y.2 = x.2 ∧ EqButVerified x.1 y.1)
    (fun p hp => ⟨rfl, eqV_apiScope hab0 p (hlen ▸ hp)⟩) (fun s o fn _ => hreg (provide_simV hab0 ctx fn i s o))
    (fun s cb info fn _ => hreg (decorate_simV hab0 ctx fn i s cb info))
    (fun s info fn hs => invoke_simV hab0 (CtxSame.rfl' ctx) fn s (hlen ▸ hs) info
      (ha0.va.parseParams ha0.gt ha0.pg ha0.ob ctx.env s fn) (hb0.va.parseParams hb0.gt hb0.pg hb0.ob ctx.env s fn))
    fun _ => ⟨rfl, hab0⟩

theorem eq_of_zip_eq {α : Type} : ∀ {l₁ l₂ : List α}, l₁.length = l₂.length → (∀ p ∈ l₁.zip l₂, p.2 = p.1) → l₂ = l₁ := by
  intro l₁
  induction l₁ with
  | nil => exact fun hl _ => List.eq_nil_of_length_eq_zero hl.symm
  | cons x xs ih =>
    intro l₂ hl h
    cases l₂ with
    | nil => cases hl
    | cons y ys =>
      have e : y = x := h (x, y) List.mem_cons_self
      rw [e, ih (Nat.succ.inj hl) fun p hp => h p (List.mem_cons_of_mem _ hp)]

theorem runOps_simV (ctx : Ctx) (fns : List Fn) :
    ∀ (ops : List Op) (i : Nat) (a b : St) (acc : List OpRes), EqV0 a b → VInv ctx.cfg a → VInv ctx.cfg b →
      (Dig.runOps ctx fns ops i b acc).2 = (Dig.runOps ctx fns ops i a acc).2 := by
  intro ops i a b acc hab ha hb
  obtain ⟨-, hl, hz⟩ := runOps_rel (ctx₁ := ctx) (ctx₂ := ctx) (fns₁ := fns) (fns₂ := fns)
    (R := fun a b => EqV0 a b ∧ VInv ctx.cfg a ∧ VInv ctx.cfg b) (Q := fun x y => y = x)
    (fun a b i op h =>
      have hs := step_simV h.1 ctx h.2.1 h.2.2 fns i op
      ⟨⟨EqV0.of_eqV hs.2, h.2.1.step fns i op, h.2.2.step fns i op⟩, hs.1⟩) ops i a b ⟨hab, ha, hb⟩
  rw [runOps_acc ctx fns ops i b, runOps_acc ctx fns ops i a, eq_of_zip_eq hl hz]

end Dig
