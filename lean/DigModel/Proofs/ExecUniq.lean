import DigModel.Proofs.EngineRel
import DigModel.Proofs.Body
import DigModel.Proofs.AList
/-
  Executions are numbered: execution `x` of function `f` ends at most once in the history of a
  container, so "execution (f, x) failed" and "execution (f, x) succeeded" exclude each other.
-/
namespace Dig

def cntOf (l : List (Nat × Nat)) (g : Nat) : Nat :=
  match l.find? (·.1 == g) with | some (_, c) => c | none => 0

theorem execCount_eq (st : St) (g : Nat) : st.execCount g = cntOf st.execs g := rfl

theorem cntOf_cons (a : Nat × Nat) (l : List (Nat × Nat)) (g : Nat) :
    cntOf (a :: l) g = if a.1 = g then a.2 else cntOf l g := by
  unfold cntOf
  simp only [List.find?_cons]
  by_cases h : a.1 = g
  · simp [h]
  · have : (a.1 == g) = false := by simpa using h
    simp [this, h]

theorem cntOf_map_bump (f : Nat) : ∀ (l : List (Nat × Nat)) (g : Nat),
    cntOf (l.map fun (p : Nat × Nat) => if p.1 == f then (p.1, p.2 + 1) else (p.1, p.2)) g =
      if g = f ∧ l.any (·.1 == f) = true then cntOf l f + 1 else cntOf l g := by
  intro l
  induction l with
  | nil => intro g; simp [cntOf]
  | cons a rest ih =>
    intro g
    simp only [List.map_cons, cntOf_cons, List.any_cons]
    by_cases haf : a.1 = f
    · have hb : (a.1 == f) = true := by simpa using haf
      simp only [hb, if_true, Bool.true_or, and_true]
      by_cases hg : g = f
      · subst hg; simp [haf]
      · have : ¬ a.1 = g := by omega
        simp only [this, if_false, hg]
        rw [ih g]; simp [hg]
    · have hb : (a.1 == f) = false := by simpa using haf
      simp only [hb, Bool.false_or]
      by_cases hag : a.1 = g
      · have hg : ¬ g = f := by omega
        simp [hag, hg]
      · simp only [hag, if_false, Bool.false_eq_true]
        rw [ih g]
        by_cases hg : g = f
        · subst hg; simp [haf]
        · simp [hg]

theorem cntOf_append_new (f : Nat) : ∀ (l : List (Nat × Nat)) (g : Nat), l.any (·.1 == f) = false →
    cntOf (l ++ [(f, 1)]) g = (if g = f then 1 else cntOf l g) ∧ cntOf l f = 0 := by
  intro l
  induction l with
  | nil =>
    intro g _
    simp only [List.nil_append, cntOf_cons]
    constructor
    · by_cases hg : g = f
      · subst hg; simp
      · have : ¬ f = g := by omega
        simp [this, hg, cntOf]
    · simp [cntOf]
  | cons a rest ih =>
    intro g hany
    simp only [List.any_cons, Bool.or_eq_false_iff] at hany
    obtain ⟨ha, hr⟩ := hany
    have haf : ¬ a.1 = f := by simpa using ha
    obtain ⟨i1, i2⟩ := ih g hr
    simp only [List.cons_append, cntOf_cons]
    constructor
    · by_cases hag : a.1 = g
      · have : ¬ g = f := by omega
        simp [hag, this]
      · simp only [hag, if_false]; exact i1
    · simp [haf, i2]

theorem execCount_bump (st : St) (f g : Nat) :
    (st.bumpExec f).execCount g = if g = f then st.execCount f + 1 else st.execCount g := by
  unfold St.bumpExec
  by_cases hany : st.execs.any (·.1 == f) = true
  · simp only [hany, if_true, execCount_eq]
    have := cntOf_map_bump f st.execs g
    simp only [hany, and_true] at this
    exact this
  · have hany' : st.execs.any (·.1 == f) = false := Bool.eq_false_iff.mpr hany
    rw [if_neg hany]
    simp only [execCount_eq]
    obtain ⟨h1, h2⟩ := cntOf_append_new f st.execs g hany'
    rw [h1]
    by_cases hg : g = f
    · subst hg; simp [h2]
    · simp [hg]

structure ExecInv (st : St) : Prop where
  bound : ∀ w f x r, Event.exit w f x r ∈ st.hist → x < st.execCount f
  uniq : ∀ (i j : Nat) w f x r w' r', st.hist[i]? = some (Event.exit w f x r) → st.hist[j]? = some (Event.exit w' f x r') → i = j

theorem ExecInv.init : ExecInv ({} : St) where
  bound w f x r h := by simp at h
  uniq i j w f x r w' r' h := by simp at h

theorem ExecInv.transfer {a b : St} (h : ExecInv a) (hh : b.hist = a.hist) (he : b.execs = a.execs) : ExecInv b where
  bound w f x r hm := by
    rw [hh] at hm
    have := h.bound w f x r hm
    simpa [execCount_eq, he] using this
  uniq := by rw [hh]; exact h.uniq

theorem ExecInv.snoc {a b : St} (h : ExecInv a) (e : Event) (hh : b.hist = a.hist ++ [e]) (he : b.execs = a.execs)
    (hne : ∀ w f x r, e ≠ .exit w f x r) : ExecInv b where
  bound w f x r hm := by
    rw [hh] at hm
    rcases List.mem_append.mp hm with h1 | h1
    · have := h.bound w f x r h1
      simpa [execCount_eq, he] using this
    · simp at h1; exact absurd h1.symm (hne w f x r)
  uniq i j w f x r w' r' hi hj := by
    rw [hh] at hi hj
    rcases getElem?_snoc hi with h1 | ⟨_, e1⟩
    · rcases getElem?_snoc hj with h2 | ⟨_, e2⟩
      · exact h.uniq i j w f x r w' r' h1 h2
      · exact absurd e2.symm (hne _ _ _ _)
    · exact absurd e1.symm (hne _ _ _ _)

theorem ExecInv.snocExit {a b : St} (h : ExecInv a) (w : Who) (f : Nat) (r : ExitKind)
    (hh : b.hist = a.hist ++ [Event.exit w f (a.execCount f) r])
    (he : ∀ g, b.execCount g = if g = f then a.execCount f + 1 else a.execCount g) : ExecInv b where
  bound w' f' x' r' hm := by
    rw [hh] at hm
    rw [he]
    rcases List.mem_append.mp hm with h1 | h1
    · have := h.bound w' f' x' r' h1
      split
      · rename_i hf; subst hf; omega
      · exact this
    · simp only [List.mem_singleton, Event.exit.injEq] at h1
      obtain ⟨_, rfl, rfl, _⟩ := h1
      simp
  uniq i j w1 f1 x1 r1 w2 r2 hi hj := by
    rw [hh] at hi hj
    rcases getElem?_snoc hi with h1 | ⟨h1, e1⟩ <;> rcases getElem?_snoc hj with h2 | ⟨h2, e2⟩
    · exact h.uniq i j w1 f1 x1 r1 w2 r2 h1 h2
    · simp only [Event.exit.injEq] at e2
      obtain ⟨_, rfl, rfl, _⟩ := e2
      have := h.bound w1 f1 _ r1 (List.mem_of_getElem? h1)
      omega
    · simp only [Event.exit.injEq] at e1
      obtain ⟨_, rfl, rfl, _⟩ := e1
      have := h.bound w2 f1 _ r2 (List.mem_of_getElem? h2)
      omega
    · omega

theorem execInv_callBody (ctx : Ctx) (who : Who) (fn : Fn) (args : List Val) (st : St) (h : ExecInv st) :
    ExecInv (callBody ctx who fn args st).2 := by
  by_cases hd : ctx.cfg.dry = true
  · rw [callBody_dry ctx hd]; exact h
  · have hnd : ctx.cfg.dry = false := by simpa using hd
    rw [callBody_spec ctx hnd]
    simp only
    let mid : St := { st with hist := st.hist ++ [Event.enter who fn.id (st.execCount fn.id) args] }
    have hmid : ExecInv mid := h.snoc _ rfl rfl (fun _ _ _ _ he => by cases he)
    refine hmid.snocExit who fn.id (exitKind ctx fn (ctx.beh fn.id (st.execCount fn.id))) ?_ ?_
    · show st.hist ++ bodyEvents ctx who fn args st = _
      unfold bodyEvents
      simp [mid, execCount_eq]
    · intro g
      show (afterBody ctx who fn args st).execCount g = _
      have : (afterBody ctx who fn args st).execCount g = (st.bumpExec fn.id).execCount g := rfl
      rw [this, execCount_bump]
      rfl

theorem execInv_runCallback (cb : Option Nat) (who : Who) (fn start : Nat) (err : Option DErr) (st : St) (h : ExecInv st) :
    ExecInv (runCallback cb who fn start err st) := by
  unfold runCallback
  split
  · exact h.snoc _ rfl rfl (fun _ _ _ _ he => by cases he)
  · exact h

theorem ctorCommit_execs (ctx : Ctx) (n : Nat) (node : CtorNode) (r : BodyRes) (st : St) :
    (ctorCommit ctx n node r st).execs = st.execs := by
  unfold ctorCommit
  cases r <;> rfl

theorem decoCommit_execs (ctx : Ctx) (d : Nat) (node : DecoNode) (r : BodyRes) (st : St) :
    (decoCommit ctx d node r st).execs = st.execs := by
  unfold decoCommit
  cases r <;> rfl

def ExecRel (a b : St) : Prop := ExecInv a → ExecInv b

theorem execRel_leaf (ctx : Ctx) : LeafRel ctx ExecRel where
  refl _ h := h
  trans h1 h2 h := h2 (h1 h)
  setOnStack _ _ h := h.transfer rfl rfl
  clearOnStack _ _ h := h.transfer rfl rfl
  decoOnStack _ _ h := h.transfer rfl rfl
  decoFinally _ _ h := h.transfer rfl rfl
  ctorTail st n node args h := by
    simp only [Dig.ctorTail]
    refine execInv_runCallback _ _ _ _ _ _ ?_
    exact (execInv_callBody ctx (.ctor n) node.fn args st h).transfer
      (ctorCommit_fields ctx n node _ _).2.1 (ctorCommit_execs ctx n node _ _)
  decoTail st d node args h := by
    simp only [Dig.decoTail]
    refine execInv_runCallback _ _ _ _ _ _ ?_
    exact (execInv_callBody ctx (.deco d) node.fn args st h).transfer
      (decoCommit_fields ctx d node _ _).2.1 (decoCommit_execs ctx d node _ _)

theorem ExecInv.buildList {st : St} (h : ExecInv st) (ctx : Ctx) (fuel : Nat) (ps : List Param) (c : Nat) :
    ExecInv (buildList ctx fuel ps c st).2 :=
  (engine_pres ctx (execRel_leaf ctx) fuel).2.2.2.2.2 ps c st h

theorem ExecInv.failed_not_ok {st : St} (h : ExecInv st) (w : Who) (f x : Nat) (r : ExitKind) (hr : r ≠ .ok)
    (hm : Event.exit w f x r ∈ st.hist) : ∀ w', Event.exit w' f x .ok ∉ st.hist := by
  intro w' hm'
  obtain ⟨i, hi⟩ := List.getElem?_of_mem hm
  obtain ⟨j, hj⟩ := List.getElem?_of_mem hm'
  have := h.uniq i j w f x r w' .ok hi hj
  subst this
  rw [hi] at hj
  simp only [Option.some.injEq, Event.exit.injEq] at hj
  exact hr hj.2.2.2

end Dig
