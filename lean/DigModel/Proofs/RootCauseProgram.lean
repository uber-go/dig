import DigModel.Proofs.ParsePure
import DigModel.Proofs.RootCauseApi
import DigModel.Proofs.DrySim
/-
  Error transparency for every operation of every program (`InvGood`).
-/
namespace Dig

theorem invGood_digErr (ctx : Ctx) (e : DErr) (h : DigRoot e) : InvGood ctx [] (.err e) := Or.inl ⟨Clean.nil, h⟩

/-- Provide runs no user function: it succeeds or fails with an error of dig's own -/
theorem apiProvide_invGood (ctx : Ctx) (fn : Fn) (st : St) (i s : Nat) (o : ProvideOpts) :
    InvGood ctx [] (apiProvide ctx fn st i s o).2.v := by
  unfold apiProvide
  split
  · exact invGood_digErr _ _ digRoot_invalid0
  · split
    · exact invGood_digErr _ _ (validateOpts_err _ _ _ ‹_›)
    · simp only []
      split
      · exact invGood_digErr _ _ (digRoot_provide (parseParams_err _ _ _ _ _ _ ‹_›))
      · split
        · exact invGood_digErr _ _ (digRoot_provide (newResultList_err _ _ _ _ ‹_›))
        · split
          · exact invGood_digErr _ _ (digRoot_provide (visitKeys_err _ _ _ _ ‹_›))
          · exact invGood_digErr _ _ (digRoot_provide digRoot_invalid0)
          · split
            · exact invGood_digErr _ _ (digRoot_provide (digRoot_invalid (digRoot_cycle _ _)))
            · trivial
            · exact nofun

theorem apiDecorate_invGood (ctx : Ctx) (fn : Fn) (st : St) (i s : Nat) (cb info : Bool) :
    InvGood ctx [] (apiDecorate ctx fn st i s cb info).2.v := by
  unfold apiDecorate
  split
  · exact invGood_digErr _ _ digRoot_invalid0
  · split
    · exact invGood_digErr _ _ (parseParams_err _ _ _ _ _ _ ‹_›)
    · split
      · exact invGood_digErr _ _ (newResultList_err _ _ _ _ ‹_›)
      · split
        · exact invGood_digErr _ _ (resultKeys_err _ _ _ ‹_›)
        · split
          · exact invGood_digErr _ _ digRoot_invalid0
          · exact nofun

theorem apiInvoke_invGood (ctx : Ctx) (fn : Fn) (st : St) (s : Nat) (info : Bool) (hlog : st.log = []) :
    InvGood ctx (apiInvoke ctx fn st s info).2.ev (apiInvoke ctx fn st s info).2.v := by
  refine apiInvoke_cases (P := fun x => InvGood ctx x.2.ev x.2.v) (fun _ _ => invGood_digErr _ _ digRoot_invalid0)
    (fun _ e w hpp => invGood_digErr _ _ (parseParams_err _ _ _ _ _ _ hpp))
    (fun _ _ _ _ _ _ _ => invGood_digErr _ _ (digRoot_missing _)) ?_ ?_
  · intro _ params w v _ _ hck
    rcases invokeCheck_error w s v hck with ⟨p, rfl, _⟩ | rfl
    · exact invGood_digErr _ _ (digRoot_invalid (digRoot_cycle _ _))
    · trivial
  · intro _ params w w3 hpp _ hck
    refine invokeRun_root ctx fn params s info w3 ?_
    rw [invokeCheck_log w w3 s hck, ← hlog, ← parseParams_log ctx.env st s fn, hpp]

theorem apiInvoke_ne_badop (ctx : Ctx) (fn : Fn) (st : St) (s : Nat) (info : Bool) :
    (apiInvoke ctx fn st s info).2.v ≠ .badop := by
  refine apiInvoke_cases (P := fun x => x.2.v ≠ .badop) (fun _ _ => nofun) (fun _ _ _ _ => nofun) (fun _ _ _ _ _ _ _ => nofun) ?_
    (fun _ params _ w3 _ _ _ => invokeRun_ne_badop ctx fn params s info w3)
  intro _ _ w v _ _ hck
  rcases invokeCheck_error w s v hck with ⟨p, rfl, _⟩ | rfl <;> nofun

theorem step_invGood (ctx : Ctx) (fns : List Fn) (st : St) (i : Nat) (op : Op) :
    InvGood ctx (Dig.step ctx fns st i op).2.ev (Dig.step ctx fns st i op).2.v := by
  have hok : InvGood ctx [] .ok := by intro e he; cases he
  cases op with
  | scope parent => simp only [Dig.step]; split <;> first | exact hok | trivial
  | provide s f o =>
    simp only [Dig.step]
    split
    · split
      · simp only [RegRes.toOpRes]
        exact apiProvide_invGood ctx _ _ i s o
      · trivial
    · trivial
  | decorate s f cb info =>
    simp only [Dig.step]
    split
    · split
      · simp only [RegRes.toOpRes]
        exact apiDecorate_invGood ctx _ _ i s cb info
      · trivial
    · trivial
  | invoke s f info =>
    simp only [Dig.step]
    split
    · split
      · exact apiInvoke_invGood ctx _ _ s info rfl
      · trivial
    · trivial
  | visualize s e => cases e <;> (simp only [Dig.step]; split <;> first | exact hok | trivial)
  | string s => simp only [Dig.step]; split <;> first | exact hok | trivial

theorem program_invGood (p : Program) : ∀ r ∈ (runProgram p).2, InvGood p.ctx r.ev r.v :=
  runOps_all p.ctx p.fns (fun r => InvGood p.ctx r.ev r.v) (fun st i op => step_invGood p.ctx p.fns st i op)
    p.ops 0 {} [] (by intro r hr; cases hr)

/-- for whole programs, given that no operation answers `panicDig` or `fuel` (both proved elsewhere for every program) -/
theorem runOps_reported (ctx : Ctx) (fns : List Fn) (ops : List Op) :
    ∀ r ∈ (Dig.runOps ctx fns ops 0 {} []).2, r.v ≠ .panicDig → r.v ≠ .fuel → Reported ctx r := by
  refine runOps_all ctx fns (fun r => r.v ≠ .panicDig → r.v ≠ .fuel → Reported ctx r) (fun st i op => ?_) ops 0 {} [] nofun
  refine step_cases ctx fns st i op (P := fun x => x.2.v ≠ .panicDig → x.2.v ≠ .fuel → Reported ctx x.2)
    (fun _ _ _ _ _ => reported_nil _ _ rfl) (fun _ _ _ _ _ _ _ _ _ => reported_nil _ _ rfl)
    (fun _ _ _ _ _ _ _ _ _ _ => reported_nil _ _ rfl) ?_ (fun _ _ _ _ => reported_nil _ _ rfl)
  exact fun s _ info fn _ _ _ h1 h2 =>
    reported_of_invGood (apiInvoke_invGood ctx fn _ s info rfl) h1 h2 (apiInvoke_ne_badop ctx fn _ s info)

/-- when no user function is scripted to fail, an operation fails only with an error of dig's own, no execution among
    its events failed, and nothing panics through -/
theorem program_allOk (p : Program) (hok : AllOk p.ctx) : ∀ r ∈ (runProgram p).2,
    (∀ e, r.v = .err e → DigRoot e ∧ Clean r.ev) ∧ (∀ f x, r.v ≠ .panicUser f x) := by
  intro r hr
  have hg := program_invGood p r hr
  constructor
  · intro e he
    rw [he] at hg
    rcases hg with hc | ⟨who, f, x, hh⟩
    · exact ⟨hc.2, hc.1⟩
    · rcases hh with ⟨_, hb, _⟩ | ⟨_, _, hb, _⟩
      · rw [hok f x] at hb; cases hb
      · rw [hok f x] at hb; cases hb
  · intro f x he
    rw [he] at hg
    obtain ⟨_, hb, _⟩ := hg
    rw [hok f x] at hb; cases hb

/-- ... and the resolution stage of an Invoke then fails only for a missing type or a cycle -/
theorem invokeRun_allOk (ctx : Ctx) (hok : AllOk ctx) (fn : Fn) (params : List Param) (s : Nat) (info : Bool) (w : St) (e : DErr)
    (h : (invokeRun ctx fn params s info w).2.v = .err e) : EngRoot e := by
  rcases invokeRun_engRoot ctx fn params s info w e h with h1 | ⟨f, x, h2⟩
  · exact h1
  · rcases h2 with ⟨_, hb⟩ | ⟨_, hb⟩
    · rw [hok f x] at hb; cases hb
    · rw [hok f x] at hb; cases hb

end Dig
