import DigModel.Proofs.DecoCommute
/-
  The swap of a Provide and an adjacent Decorate (`DecoCommute.lean`) inside a history: the two steps in either order
  (whatever functions and scopes they name, `badop` included), and any history around them.  No callbacks: a callback
  remembers the number of the operation that registered it, and the two numbers change places with the operations.
-/
namespace Dig

theorem apiProvide_opIndex (ctx : Ctx) (fn : Fn) (st : St) (i j s : Nat) (o : ProvideOpts) (ho : o.cb = false) :
    apiProvide ctx fn st i s o = apiProvide ctx fn st j s o := by
  unfold apiProvide
  simp only [ho, Bool.false_eq_true, if_false]

theorem apiDecorate_opIndex (ctx : Ctx) (fn : Fn) (st : St) (i j s : Nat) (info : Bool) :
    apiDecorate ctx fn st i s false info = apiDecorate ctx fn st j s false info := by
  unfold apiDecorate
  simp only [Bool.false_eq_true, if_false]

theorem resetLog_of_nil (x : St) (h : x.log = []) : ({ x with log := [] } : St) = x := by
  cases x; simp only at h; subst h; rfl

theorem apiProvide_log (ctx : Ctx) (fn : Fn) (st : St) (i s : Nat) (o : ProvideOpts) :
    (apiProvide ctx fn st i s o).1.log = st.log := by
  rcases apiProvide_work ctx fn st i s o with he | ⟨target, w, hw, hr | ⟨n, hr⟩⟩
  · exact he.2.2.2.2.2.1.symm
  · rw [hr]; exact hw.log
  · rw [hr]; exact hw.log

theorem step_provide_decorate_swap (ctx : Ctx) (fns : List Fn) (st : St) (i sP fP sD fD : Nat) (o : ProvideOpts) (info : Bool)
    (fp fd : Fn) (hP : fnOf fns fP = some fp) (hD : fnOf fns fD = some fd) (hsP : sP < st.scopes.length) (hsD : sD < st.scopes.length)
    (ho : o.cb = false) (hg : ∀ t ∈ (if fd.variadic then fd.ins.dropLast else fd.ins), noGroupT t = true) :
    (step ctx fns (step ctx fns st i (.provide sP fP o)).1 (i + 1) (.decorate sD fD false info)).1 =
      (step ctx fns (step ctx fns st i (.decorate sD fD false info)).1 (i + 1) (.provide sP fP o)).1 ∧
    (step ctx fns st i (.provide sP fP o)).2 = (step ctx fns (step ctx fns st i (.decorate sD fD false info)).1 (i + 1) (.provide sP fP o)).2 ∧
    (step ctx fns (step ctx fns st i (.provide sP fP o)).1 (i + 1) (.decorate sD fD false info)).2 =
      (step ctx fns st i (.decorate sD fD false info)).2 := by
  have hsw := provide_decorate_swap_noGroup ctx fp fd { st with log := [] } i i sP sD o false info hg
  have hlP := apiProvide_len ctx fp { st with log := [] } i sP o
  have hlD := (apiDecorate_len_log ctx fd { st with log := [] } i sD false info).1
  have hlogP := apiProvide_log ctx fp { st with log := [] } i sP o
  have hlogD := (apiDecorate_len_log ctx fd { st with log := [] } i sD false info).2
  rw [step_provide_eq ctx fns st i sP fP o fp hP hsP, step_decorate_eq ctx fns st i sD fD false info fd hD hsD]
  simp only
  rw [step_decorate_eq ctx fns _ (i + 1) sD fD false info fd hD (by rw [hlP]; exact hsD),
    step_provide_eq ctx fns _ (i + 1) sP fP o fp hP (by rw [hlD]; exact hsP)]
  simp only
  rw [resetLog_of_nil _ hlogP, resetLog_of_nil _ hlogD, apiDecorate_opIndex ctx fd _ (i + 1) i sD info,
    apiProvide_opIndex ctx fp _ (i + 1) i sP o ho]
  exact ⟨hsw.1, by rw [hsw.2.1], by rw [hsw.2.2]⟩

theorem step_resetLog (ctx : Ctx) (fns : List Fn) (st : St) (i : Nat) (op : Op) :
    step ctx fns { st with log := [] } i op = step ctx fns st i op := rfl

theorem step_provide_opIndex (ctx : Ctx) (fns : List Fn) (st : St) (i j s f : Nat) (o : ProvideOpts) (ho : o.cb = false) :
    step ctx fns st i (.provide s f o) = step ctx fns st j (.provide s f o) := by
  simp only [step]
  cases fnOf fns f with
  | none => rfl
  | some fn => simp only [apiProvide_opIndex ctx fn _ i j s o ho]

theorem step_decorate_opIndex (ctx : Ctx) (fns : List Fn) (st : St) (i j s f : Nat) (info : Bool) :
    step ctx fns st i (.decorate s f false info) = step ctx fns st j (.decorate s f false info) := by
  simp only [step]
  cases fnOf fns f with
  | none => rfl
  | some fn => simp only [apiDecorate_opIndex ctx fn _ i j s info]

theorem step_provide_bad (ctx : Ctx) (fns : List Fn) (st : St) (i s f : Nat) (o : ProvideOpts)
    (h : ¬ ∃ fn, fnOf fns f = some fn ∧ s < st.scopes.length) :
    step ctx fns st i (.provide s f o) = ({ st with log := [] }, { v := .badop }) := by
  simp only [step]
  cases hf : fnOf fns f with
  | none => rfl
  | some fn => simp only; rw [if_neg fun hs => h ⟨fn, hf, hs⟩]

theorem step_decorate_bad (ctx : Ctx) (fns : List Fn) (st : St) (i s f : Nat) (cb info : Bool)
    (h : ¬ ∃ fn, fnOf fns f = some fn ∧ s < st.scopes.length) :
    step ctx fns st i (.decorate s f cb info) = ({ st with log := [] }, { v := .badop }) := by
  simp only [step]
  cases hf : fnOf fns f with
  | none => rfl
  | some fn => simp only; rw [if_neg fun hs => h ⟨fn, hf, hs⟩]

theorem step_reg_keep (ctx : Ctx) (fns : List Fn) (st : St) (i : Nat) (op : Op) (h1 : ∀ p, op ≠ .scope p)
    (h2 : ∀ s f info, op ≠ .invoke s f info) :
    (step ctx fns st i op).1.scopes.length = st.scopes.length ∧ (step ctx fns st i op).1.log = [] :=
  step_cases ctx fns st i op (P := fun x => x.1.scopes.length = st.scopes.length ∧ x.1.log = [])
    (fun p e => absurd e (h1 p))
    (fun s _ o fn _ _ _ => ⟨apiProvide_len ctx fn _ i s o, apiProvide_log ctx fn _ i s o⟩)
    (fun s _ cb info fn _ _ _ => apiDecorate_len_log ctx fn _ i s cb info)
    (fun s f info _ e => absurd e (h2 s f info)) fun _ _ => ⟨rfl, rfl⟩

theorem step_provide_decorate_swap_all (ctx : Ctx) (fns : List Fn) (st : St) (i sP fP sD fD : Nat) (o : ProvideOpts) (info : Bool)
    (ho : o.cb = false)
    (hng : ∀ fd, fnOf fns fD = some fd → ∀ t ∈ (if fd.variadic then fd.ins.dropLast else fd.ins), noGroupT t = true) :
    (step ctx fns (step ctx fns st i (.provide sP fP o)).1 (i + 1) (.decorate sD fD false info)).1 =
      (step ctx fns (step ctx fns st i (.decorate sD fD false info)).1 (i + 1) (.provide sP fP o)).1 ∧
    (step ctx fns st i (.provide sP fP o)).2 = (step ctx fns (step ctx fns st i (.decorate sD fD false info)).1 (i + 1) (.provide sP fP o)).2 ∧
    (step ctx fns (step ctx fns st i (.provide sP fP o)).1 (i + 1) (.decorate sD fD false info)).2 =
      (step ctx fns st i (.decorate sD fD false info)).2 := by
  have hkP := step_reg_keep ctx fns st i (.provide sP fP o) (fun _ => nofun) (fun _ _ _ => nofun)
  have hkD := step_reg_keep ctx fns st i (.decorate sD fD false info) (fun _ => nofun) (fun _ _ _ => nofun)
  by_cases hD : ∃ fd, fnOf fns fD = some fd ∧ sD < st.scopes.length
  · by_cases hP : ∃ fp, fnOf fns fP = some fp ∧ sP < st.scopes.length
    · obtain ⟨fp, hfp, hsP⟩ := hP
      obtain ⟨fd, hfd, hsD⟩ := hD
      exact step_provide_decorate_swap ctx fns st i sP fP sD fD o info fp fd hfp hfd hsP hsD ho (hng fd hfd)
    · -- the Provide is not an operation of this container: the Decorate sees the container it would see alone
      rw [step_provide_bad ctx fns st i sP fP o hP, step_provide_bad ctx fns _ (i + 1) sP fP o (by rw [hkD.1]; exact hP),
        resetLog_of_nil _ hkD.2, step_resetLog, step_decorate_opIndex ctx fns st (i + 1) i]
      exact ⟨rfl, rfl, rfl⟩
  · rw [step_decorate_bad ctx fns st i sD fD false info hD,
      step_decorate_bad ctx fns _ (i + 1) sD fD false info (by rw [hkP.1]; exact hD),
      resetLog_of_nil _ hkP.2, step_resetLog, step_provide_opIndex ctx fns st (i + 1) i sP fP o ho]
    exact ⟨rfl, rfl, rfl⟩

theorem runOps_provide_decorate_swap (ctx : Ctx) (fns : List Fn) (sP fP sD fD : Nat) (o : ProvideOpts) (info : Bool)
    (ho : o.cb = false)
    (hng : ∀ fd, fnOf fns fD = some fd → ∀ t ∈ (if fd.variadic then fd.ins.dropLast else fd.ins), noGroupT t = true)
    (post : List Op) : ∀ (pre : List Op) (i : Nat) (st : St) (acc : List OpRes),
    (runOps ctx fns (pre ++ .provide sP fP o :: .decorate sD fD false info :: post) i st acc).1 =
      (runOps ctx fns (pre ++ .decorate sD fD false info :: .provide sP fP o :: post) i st acc).1 ∧
    ∃ l1 rP rD l2,
      (runOps ctx fns (pre ++ .provide sP fP o :: .decorate sD fD false info :: post) i st acc).2 = l1 ++ rP :: rD :: l2 ∧
      (runOps ctx fns (pre ++ .decorate sD fD false info :: .provide sP fP o :: post) i st acc).2 = l1 ++ rD :: rP :: l2 ∧
      l1.length = acc.length + pre.length
  | [], i, st, acc => by
    obtain ⟨h1, h2, h3⟩ := step_provide_decorate_swap_all ctx fns st i sP fP sD fD o info ho hng
    simp only [List.nil_append, runOps]
    rw [runOps_acc ctx fns post (i + 1 + 1) _ (_ :: _ :: acc), runOps_acc ctx fns post (i + 1 + 1) _ (_ :: _ :: acc), h1]
    refine ⟨rfl, acc.reverse, (step ctx fns st i (.provide sP fP o)).2, (step ctx fns st i (.decorate sD fD false info)).2,
      (runOps ctx fns post (i + 1 + 1)
        (step ctx fns (step ctx fns st i (.decorate sD fD false info)).1 (i + 1) (.provide sP fP o)).1 []).2, ?_, ?_, by simp⟩
    · simp only [List.reverse_cons, List.append_assoc, List.cons_append, List.nil_append, h3]
    · simp only [List.reverse_cons, List.append_assoc, List.cons_append, List.nil_append, ← h2]
  | op :: rest, i, st, acc => by
    simp only [List.cons_append, runOps]
    obtain ⟨h1, l1, rP, rD, l2, e1, e2, hl⟩ := runOps_provide_decorate_swap ctx fns sP fP sD fD o info ho hng post rest (i + 1)
      (step ctx fns st i op).1 ((step ctx fns st i op).2 :: acc)
    exact ⟨h1, l1, rP, rD, l2, e1, e2, by simp only [List.length_cons] at hl ⊢; omega⟩

end Dig
