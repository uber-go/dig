import DigModel.Proofs.NoBug
import DigModel.Proofs.InvokeShape
import DigModel.Proofs.RootCauseApi
/-
  The facts the resolver relies on (`RegWF`, `HomeOK`, `Cached`) hold in every reachable container.
-/
namespace Dig

structure CtorDesc2 (a b : CtorNode) : Prop where
  fn : a.fn = b.fn
  results : a.results = b.results
  s : a.s = b.s
  params : a.params = b.params
  called : a.called = b.called

/-- the accepted outcome of a Provide (and the model's "dig panics" answers): what was added -/
structure Added2 (st st' : St) (target : Nat) (results : List RSlot) (keys : List Key) (fn0 : Fn) : Prop where
  chk : ∃ X : ScopeSt, X.providers = (st.scope target).providers ∧ visitKeys X (slotResults results) [] = .ok keys
  len : st'.ctors.length = st.ctors.length + 1
  node : (st'.ctor st.ctors.length).results = results ∧ (st'.ctor st.ctors.length).s = target
  keep : CtorsKeep st st'
  others : ∀ j, j ≠ target → (st'.scope j).providers = (st.scope j).providers
  prov : target < st.scopes.length → (st'.scope target).providers =
    keys.foldl (fun m k => aset m k (agetL m k ++ [st.ctors.length])) (st.scope target).providers
  scopesLen : st'.scopes.length = st.scopes.length
  pre : ∀ n, n < st.ctors.length → st'.ctor n = st.ctor n
  decos : st'.decos = st.decos
  fresh : (st'.ctor st.ctors.length).called = false
  wfp : ParamsWF (st'.ctor st.ctors.length).params
  wfr : SlotsWF results
  newfn : (st'.ctor st.ctors.length).fn = fn0

theorem Registered.added2 {ctx : Ctx} {fn : Fn} {st : St} {i s : Nat} {o : ProvideOpts} {target : Nat}
    {params : List Param} {results : List RSlot} {keys : List Key} {w w' : St}
    (hr : Registered ctx fn st i s o target params results keys w) (hc : w'.ctors = w.ctors)
    (hl : w'.scopes.length = w.scopes.length) (hp : ∀ j, (w'.scope j).providers = (w.scope j).providers)
    (hd : w'.decos = w.decos) : Added2 st w' target results keys fn := by
  have ha := hr.added hc hl hp
  obtain ⟨ord, e⟩ := hr.ctor
  have e' : w'.ctor st.ctors.length = w.ctor st.ctors.length := ctor_of_ctors_eq hc _
  rw [e] at e'
  obtain ⟨as, _, hres⟩ := hr.built
  refine ⟨ha.chk, ha.len, ha.node, ha.keep, ha.others, ha.prov, ha.scopesLen, fun n hn => ?_, hd.trans hr.work.decos,
    by rw [e'], ?_, newResultList_wf ctx.env _ fn results hres, by rw [e']⟩
  · unfold St.ctor; rw [hc]; exact ctor_of_take hr.work.ctorsPre n hn
  · rw [e']
    exact parseParams_wf ctx.env st target fn params _ (Prod.ext hr.parsed rfl)

theorem apiProvide_reg2 (ctx : Ctx) (fn : Fn) (st : St) (i s : Nat) (o : ProvideOpts) :
    EqButVerified st (apiProvide ctx fn st i s o).1 ∨
    ∃ results keys, Added2 st (apiProvide ctx fn st i s o).1 (if o.export_ then St.root else s) results keys fn := by
  refine apiProvide_cases ctx fn st i s o (P := fun x => EqButVerified st x.1 ∨
      ∃ results keys, Added2 st x.1 (if o.export_ then St.root else s) results keys fn) (fun _ _ he => Or.inl he) ?_ ?_
  · intro target _ results keys w hr
    rw [← hr.target_eq]
    exact Or.inr ⟨results, keys, hr.added2 rfl rfl (fun _ => rfl) rfl⟩
  · intro target _ results keys w hr
    rw [← hr.target_eq]
    refine Or.inr ⟨results, keys, hr.added2 rfl (by simp [St.modScope]) (fun j => ?_) rfl⟩
    rw [scope_modScope]; split <;> rfl

structure AddedDeco (env : TyEnv) (st st' : St) (s : Nat) (fn0 : Fn) : Prop where
  ctors : st'.ctors = st.ctors
  len : st'.decos.length = st.decos.length + 1
  pre : ∀ d, d < st.decos.length → st'.deco d = st.deco d
  node : (st'.deco st.decos.length).s = s ∧ (st'.deco st.decos.length).state = .ready ∧ ParamsWF (st'.deco st.decos.length).params
  keys : ∃ keys, resultKeys env (slotResults (st'.deco st.decos.length).results) = .ok keys ∧
    SlotsWF (st'.deco st.decos.length).results ∧
    (∀ j, (st'.scope j).decorators =
      if s = j ∧ j < st.scopes.length then keys.foldl (fun m k => aset m k st.decos.length) (st.scope j).decorators
      else (st.scope j).decorators)
  providers : ∀ j, (st'.scope j).providers = (st.scope j).providers
  scopesLen : st'.scopes.length = st.scopes.length
  newfn : (st'.deco st.decos.length).fn = fn0

theorem apiDecorate_reg (ctx : Ctx) (fn : Fn) (st : St) (i s : Nat) (cb info : Bool) :
    (apiDecorate ctx fn st i s cb info).1 = st ∨ AddedDeco ctx.env st (apiDecorate ctx fn st i s cb info).1 s fn := by
  refine apiDecorate_cases ctx fn st i s cb info (P := fun x => x.1 = st ∨ AddedDeco ctx.env st x.1 s fn)
    (fun _ => Or.inl rfl) ?_
  intro params results keys w hpp hg hr hk _
  have key : ∀ node : DecoNode, node.s = s → node.state = .ready → node.params = params → node.results = results →
      node.fn = fn → AddedDeco ctx.env st (St.modScope { w with decos := w.decos ++ [node] } s
        fun x => { x with decorators := keys.foldl (fun m k => aset m k w.decos.length) x.decorators }) s fn := by
    intro node e1 e2 e3 e4 e5
    have hlen : w.decos.length = st.decos.length := by rw [hg.decos]
    have hnode : ∀ f, (St.modScope { w with decos := w.decos ++ [node] } s f).deco st.decos.length = node := by
      intro f
      show (w.decos ++ [node]).getD st.decos.length default = node
      rw [← hlen, getD_snoc, if_neg (Nat.lt_irrefl _), if_pos rfl]
    have hscope : ∀ f j, (St.modScope { w with decos := w.decos ++ [node] } s f).scope j =
        if s = j ∧ j < st.scopes.length then f (w.scope j) else w.scope j := by
      intro f j; rw [hg.scopesLen]; exact scope_modScope _ s j f
    refine ⟨hg.ctors.symm, ?_, ?_, ?_, ⟨keys, ?_, ?_, ?_⟩, ?_, (List.length_modify ..).trans hg.scopesLen.symm, ?_⟩
    · show (w.decos ++ [node]).length = _
      rw [List.length_append, hlen]; rfl
    · intro d hd
      show (w.decos ++ [node]).getD d default = st.decos.getD d default
      rw [getD_snoc, hlen, if_pos hd, hg.decos]
    · rw [hnode, e3]
      exact ⟨e1, e2, parseParams_wf ctx.env st s fn params w hpp⟩
    · rw [hnode, e4]; exact hk
    · rw [hnode, e4]; exact newResultList_wf ctx.env {} fn results hr
    · intro j
      rw [hscope, hlen, (hg.scope j).decorators]
      split <;> rfl
    · intro j
      rw [hscope, (hg.scope j).providers]
      split <;> rfl
    · rw [hnode, e5]
  exact Or.inr (key _ rfl rfl rfl rfl rfl)

theorem slotGroupLeaves_eq : ∀ (slots : List RSlot), slotGroupLeaves slots = groupLeavesL (slotResults slots)
  | [] => rfl
  | .err :: rest => by simp only [slotGroupLeaves, slotResults]; exact slotGroupLeaves_eq rest
  | .val r :: rest => by simp only [slotGroupLeaves, slotResults, groupLeavesL]; rw [slotGroupLeaves_eq rest]

theorem slotDecoLeaves_eq (env : TyEnv) : ∀ (slots : List RSlot), slotDecoLeaves env slots = decoLeavesL env (slotResults slots)
  | [] => rfl
  | .err :: rest => by simp only [slotDecoLeaves, slotResults]; exact slotDecoLeaves_eq env rest
  | .val r :: rest => by simp only [slotDecoLeaves, slotResults, decoLeavesL]; rw [slotDecoLeaves_eq env rest]

theorem slotsWF_names {slots : List RSlot} (h : SlotsWF slots) : ∀ g ∈ groupNamesL (slotResults slots), g ≠ "" := by
  apply groupNamesL_wf
  intro x hx
  rw [← slotGroupLeaves_eq] at hx
  exact h x hx

theorem foldl_aset_key (keys : List Key) (d : Nat) : ∀ (m : List (Key × Nat)) (k : Key) (x : Nat),
    aget (keys.foldl (fun m k => aset m k d) m) k = some x → (k ∈ keys ∧ x = d) ∨ aget m k = some x := by
  induction keys with
  | nil => intro m k x h; exact Or.inr h
  | cons k0 ks ih =>
    intro m k x h
    simp only [List.foldl_cons] at h
    rcases ih _ k x h with ⟨h1, h2⟩ | h1
    · left; exact ⟨by simp [h1], h2⟩
    · rw [aget_aset] at h1
      split at h1
      · rename_i hk; injection h1 with e; left; exact ⟨by simp [hk], e.symm⟩
      · right; exact h1

theorem resultKeys_plain (env : TyEnv) : ∀ (rs : List Result) (keys : List Key), resultKeys env rs = .ok keys →
    (∀ g ∈ groupNamesL rs, g ≠ "") → ∀ k ∈ keys, k.group = "" → ∃ slot decl, (false, k, slot, decl) ∈ decoLeavesL env rs := by
  apply resultKeys.induct env (fun rs => ∀ keys, resultKeys env rs = .ok keys →
    (∀ g ∈ groupNamesL rs, g ≠ "") → ∀ k ∈ keys, k.group = "" → ∃ slot decl, (false, k, slot, decl) ∈ decoLeavesL env rs)
  · intro keys h _ k hk
    simp only [resultKeys] at h; injection h with h; subst h; cases hk
  · intro slot decl ty name as rest ks hr ih keys h hn k hk hg
    simp only [resultKeys, hr] at h
    injection h with h; subst h
    rcases List.mem_cons.mp hk with rfl | hm
    · exact ⟨slot, decl, by simp [decoLeavesL, decoLeaves]⟩
    · obtain ⟨s', d', hmem⟩ := ih ks hr (fun g hgm => hn g (by simp only [groupNamesL, groupNames, List.nil_append]; exact hgm)) k hm hg
      exact ⟨s', d', by simp only [decoLeavesL, List.mem_append]; exact Or.inr hmem⟩
  · intro slot decl ty name as rest e hr _ keys h
    simp only [resultKeys, hr] at h; cases h
  · intro slot decl ty group as rest keys h
    simp only [resultKeys, if_true] at h; cases h
  · intro slot decl ty group flatten as rest hf hk2 keys h
    have hff : flatten = false := by simpa using hf
    simp only [resultKeys, hff, hk2, Bool.false_eq_true, if_false, if_true] at h; cases h
  · intro slot decl ty group flatten as rest hf hk2 ks hr ih keys h hn k hk hg
    have hff : flatten = false := by simpa using hf
    have hkk : (kindOfId env ty != Kind.slice) = false := by simpa using hk2
    simp only [resultKeys, hff, hkk, Bool.false_eq_true, if_false, hr] at h
    injection h with h; subst h
    rcases List.mem_cons.mp hk with rfl | hm
    · exfalso
      simp only at hg
      exact hn group (by simp [groupNamesL, groupNames]) hg
    · obtain ⟨s', d', hmem⟩ := ih ks hr (fun g hgm => hn g (by simp only [groupNamesL, List.mem_append]; exact Or.inr hgm)) k hm hg
      exact ⟨s', d', by simp only [decoLeavesL, List.mem_append]; exact Or.inr hmem⟩
  · intro slot decl ty group flatten as rest hf hk2 e hr _ keys h
    have hff : flatten = false := by simpa using hf
    have hkk : (kindOfId env ty != Kind.slice) = false := by simpa using hk2
    simp only [resultKeys, hff, hkk, Bool.false_eq_true, if_false, hr] at h; cases h
  · intro ty fs rest e he _ keys h
    simp only [resultKeys, he] at h; cases h
  · intro ty fs rest ks1 h1 ks2 h2 ih1 ih2 keys h hn k hk hg
    simp only [resultKeys, h1, h2] at h
    injection h with h; subst h
    rcases List.mem_append.mp hk with hm | hm
    · obtain ⟨s', d', hmem⟩ := ih1 ks1 h1 (fun g hgm => hn g (by simp only [groupNamesL, groupNames, List.mem_append]; exact Or.inl hgm)) k hm hg
      exact ⟨s', d', by simp only [decoLeavesL, decoLeaves, List.mem_append]; exact Or.inl hmem⟩
    · obtain ⟨s', d', hmem⟩ := ih2 ks2 h2 (fun g hgm => hn g (by simp only [groupNamesL, List.mem_append]; exact Or.inr hgm)) k hm hg
      exact ⟨s', d', by simp only [decoLeavesL, List.mem_append]; exact Or.inr hmem⟩
  · intro ty fs rest ks1 h1 e he _ _ keys h
    simp only [resultKeys, h1, he] at h; cases h

theorem desc2_of_ctors_eq {a b : St} (h : b.ctors = a.ctors) (n : Nat) : CtorDesc2 (b.ctor n) (a.ctor n) := by
  unfold St.ctor; rw [h]; exact ⟨rfl, rfl, rfl, rfl, rfl⟩

theorem ordersOnly_desc2 {a b : St} (h : OrdersOnly a b) (j : Nat) : CtorDesc2 (b.ctor j) (a.ctor j) := by
  obtain ⟨o, e⟩ := h.ctor j
  rw [e]
  exact ⟨rfl, rfl, rfl, rfl, rfl⟩

theorem ctorKeys_desc2 {a b : St} {n : Nat} (h : CtorDesc2 (b.ctor n) (a.ctor n)) : ctorKeys b n = ctorKeys a n := by
  unfold ctorKeys; rw [h.results]

theorem RegWF.transfer {env : TyEnv} {a b : St} (h : RegWF env a) (hl : b.ctors.length = a.ctors.length)
    (hc : ∀ n, CtorDesc2 (b.ctor n) (a.ctor n)) (hd : b.decos = a.decos)
    (hs : ∀ j, (b.scope j).providers = (a.scope j).providers ∧ (b.scope j).decorators = (a.scope j).decorators) :
    RegWF env b := by
  have ed : ∀ d, b.deco d = a.deco d := deco_of_decos_eq hd
  refine ⟨?_, ?_, ?_, ?_⟩
  · intro n hn; rw [(hc n).params]; exact h.ctorParams n (hl ▸ hn)
  · intro d hdl; rw [ed d]; exact h.decoParams d (hd ▸ hdl)
  · intro S k n hn hk
    rw [(hs S).1] at hn
    rw [(hc n).s, ctorKeys_desc2 (hc n)]
    exact h.provPlain S k n hn hk
  · intro s k d hdd hk
    rw [(hs s).2] at hdd
    rw [hd, ed d]
    exact h.decoPlain s k d hdd hk

theorem HomeOK.transfer {a b : St} (h : HomeOK a) (hl : b.ctors.length = a.ctors.length)
    (hc : ∀ n, CtorDesc2 (b.ctor n) (a.ctor n)) (hd : b.decos = a.decos) (hlen : a.scopes.length ≤ b.scopes.length) :
    HomeOK b where
  ctor n hn := by rw [(hc n).s]; exact Nat.lt_of_lt_of_le (h.ctor n (hl ▸ hn)) hlen
  deco d hdl := by
    have : b.deco d = a.deco d := deco_of_decos_eq hd _
    rw [this]; exact Nat.lt_of_lt_of_le (h.deco d (hd ▸ hdl)) hlen

theorem HomeOK.same {a b : St} (h : HomeOK a) (hc : b.ctors = a.ctors) (hd : b.decos = a.decos)
    (hl : a.scopes.length ≤ b.scopes.length) : HomeOK b :=
  h.transfer (by rw [hc]) (desc2_of_ctors_eq hc) hd hl

theorem Cached.transfer {env : TyEnv} {a b : St} (h : Cached env a)
    (hc : ∀ n, n < b.ctors.length → (b.ctor n).called = true →
      n < a.ctors.length ∧ (a.ctor n).called = true ∧ (b.ctor n).results = (a.ctor n).results ∧ (b.ctor n).s = (a.ctor n).s)
    (hd : ∀ d, d < b.decos.length → (b.deco d).state = .called →
      d < a.decos.length ∧ (a.deco d).state = .called ∧ (b.deco d).results = (a.deco d).results ∧ (b.deco d).s = (a.deco d).s)
    (hs : ∀ j, (b.scope j).values = (a.scope j).values ∧ (b.scope j).decoratedValues = (a.scope j).decoratedValues) :
    Cached env b where
  ctor n hn hcl k hk := by
    obtain ⟨a1, a2, a3, a4⟩ := hc n hn hcl
    unfold ctorKeys at hk
    rw [a3] at hk
    rw [a4, (hs _).1]
    exact h.ctor n a1 a2 k hk
  deco d hdl hst k slot decl hm := by
    obtain ⟨a1, a2, a3, a4⟩ := hd d hdl hst
    rw [a3] at hm
    rw [a4, (hs _).2]
    exact h.deco d a1 a2 k slot decl hm

theorem Cached.desc {env : TyEnv} {a b : St} (h : Cached env a) (hl : b.ctors.length = a.ctors.length)
    (hc : ∀ n, CtorDesc2 (b.ctor n) (a.ctor n)) (hd : b.decos = a.decos)
    (hs : ∀ j, (b.scope j).values = (a.scope j).values ∧ (b.scope j).decoratedValues = (a.scope j).decoratedValues) :
    Cached env b :=
  h.transfer (fun n hn hcl => ⟨hl ▸ hn, (hc n).called ▸ hcl, (hc n).results, (hc n).s⟩)
    (fun d hdl hst => by
      have : b.deco d = a.deco d := deco_of_decos_eq hd _
      rw [this] at hst ⊢; exact ⟨hd ▸ hdl, hst, rfl, rfl⟩) hs

structure NB3 (env : TyEnv) (st : St) : Prop where
  wf : RegWF env st
  home : HomeOK st
  cached : Cached env st

theorem NB3.transfer {env : TyEnv} {a b : St} (h : NB3 env a) (hl : b.ctors.length = a.ctors.length)
    (hc : ∀ n, CtorDesc2 (b.ctor n) (a.ctor n)) (hd : b.decos = a.decos) (hlen : a.scopes.length ≤ b.scopes.length)
    (hs : ∀ j, (b.scope j).providers = (a.scope j).providers ∧ (b.scope j).decorators = (a.scope j).decorators ∧
      (b.scope j).values = (a.scope j).values ∧ (b.scope j).decoratedValues = (a.scope j).decoratedValues) : NB3 env b :=
  ⟨h.wf.transfer hl hc hd (fun j => ⟨(hs j).1, (hs j).2.1⟩), h.home.transfer hl hc hd hlen,
   h.cached.desc hl hc hd (fun j => (hs j).2.2)⟩

theorem NB3.same {env : TyEnv} {a b : St} (h : NB3 env a) (hc : b.ctors = a.ctors) (hd : b.decos = a.decos)
    (hl : a.scopes.length ≤ b.scopes.length)
    (hs : ∀ j, (b.scope j).providers = (a.scope j).providers ∧ (b.scope j).decorators = (a.scope j).decorators ∧
      (b.scope j).values = (a.scope j).values ∧ (b.scope j).decoratedValues = (a.scope j).decoratedValues) : NB3 env b :=
  h.transfer (by rw [hc]) (desc2_of_ctors_eq hc) hd hl hs

theorem NB3.ghOnly {env : TyEnv} {a b : St} (h : NB3 env a) (hg : GhOnly a b) : NB3 env b :=
  h.same hg.ctors.symm hg.decos.symm (by rw [hg.scopesLen]; exact Nat.le_refl _)
    (fun j => by
      obtain ⟨_, _, p3, p4, p5, p6, _⟩ := hg.scope j
      exact ⟨p3.symm, p4.symm, p5.symm, p6.symm⟩)

theorem NB3.scope {env : TyEnv} {st : St} (h : NB3 env st) (parent : Nat) : NB3 env (apiScope st parent) := by
  have hs := (apiScope_shape st parent).1
  have hcs := cacheSame_apiScope st parent
  have hpr := apiScope_providers st parent
  exact h.transfer hs.ctorsLen (ordersOnly_desc2 hs) hs.decos (hpr 0).2 fun j =>
    ⟨(hpr j).1, apiScope_scope_keep (·.decorators) st parent (fun _ _ => rfl) rfl j, hcs.values j, hcs.decoratedValues j⟩

theorem RegWF.provide {st : St} (ctx : Ctx) (h : RegWF ctx.env st) (hr : RegInv st) (fn : Fn) (i s : Nat) (o : ProvideOpts)
    (hs : s < st.scopes.length) : RegWF ctx.env (apiProvide ctx fn st i s o).1 := by
  have hdeco := (apiProvide_decos ctx fn st i s o).2
  rcases apiProvide_reg2 ctx fn st i s o with he | ⟨results, keys, ha⟩
  · exact h.transfer (by rw [he.ctors]) (desc2_of_ctors_eq he.ctors.symm) he.decos.symm
      fun j => ⟨(he.scope j).providers.symm, (hdeco j)⟩
  · have ht : (if o.export_ then St.root else s) < st.scopes.length := by
      split
      · exact hr.nonempty
      · exact hs
    generalize (if o.export_ then St.root else s) = target at ha ht
    have hd : ∀ d, (apiProvide ctx fn st i s o).1.deco d = st.deco d := deco_of_decos_eq ha.decos
    obtain ⟨X, hX, hvk⟩ := ha.chk
    have hnew : ctorKeys (apiProvide ctx fn st i s o).1 st.ctors.length = singleKeysL (slotResults results) := by
      unfold ctorKeys singleKeysL
      rw [ha.node.1, slotLeaves_eq]
    refine ⟨?_, fun d hdd => by rw [hd]; exact h.decoParams d (by rw [← ha.decos]; exact hdd), ?_, ?_⟩
    · intro n hn
      rw [ha.len] at hn
      rcases Nat.lt_succ_iff_lt_or_eq.mp hn with hlt | rfl
      · rw [ha.pre n hlt]; exact h.ctorParams n hlt
      · exact ha.wfp
    · intro S k n hn hk
      have hold : n ∈ agetL (st.scope S).providers k → ((apiProvide ctx fn st i s o).1.ctor n).s = S ∧
          k ∈ ctorKeys (apiProvide ctx fn st i s o).1 n := by
        intro h0
        have hb := hr.bound S k n h0
        obtain ⟨a1, a2⟩ := h.provPlain S k n h0 hk
        exact ⟨by rw [ha.pre n hb]; exact a1, by unfold ctorKeys at a2 ⊢; rw [ha.pre n hb]; exact a2⟩
      by_cases hS : S = target
      · subst hS
        rw [ha.prov ht] at hn
        by_cases hnew' : n = st.ctors.length
        · subst hnew'
          rcases foldl_append_key _ _ _ k hn with h1 | h1
          · rcases visitKeys_sub X _ _ _ hvk k h1 with h2 | h2 | h2
            · cases h2
            · exact ⟨ha.node.2, by rw [hnew]; exact h2⟩
            · exact absurd hk (slotsWF_names ha.wfr _ h2)
          · exact absurd (hr.bound _ k _ h1) (Nat.lt_irrefl _)
        · rcases foldl_aset_append_mem _ _ _ k n hn with h1 | h1
          · exact absurd h1 hnew'
          · exact hold h1
      · rw [ha.others S hS] at hn
        exact hold hn
    · intro s' k d hdd hk
      rw [hdeco] at hdd
      obtain ⟨a1, a2, a3⟩ := h.decoPlain s' k d hdd hk
      exact ⟨by rw [ha.decos]; exact a1, by rw [hd]; exact a2, by rw [hd]; exact a3⟩

theorem RegWF.decorate {st : St} (ctx : Ctx) (h : RegWF ctx.env st) (fn : Fn) (i s : Nat) (cb info : Bool) :
    RegWF ctx.env (apiDecorate ctx fn st i s cb info).1 := by
  rcases apiDecorate_reg ctx fn st i s cb info with he | ha
  · rw [he]; exact h
  · have hc : ∀ n, (apiDecorate ctx fn st i s cb info).1.ctor n = st.ctor n := ctor_of_ctors_eq ha.ctors
    obtain ⟨keys, hk, hwf, hdec⟩ := ha.keys
    refine ⟨fun n hn => by rw [hc]; exact h.ctorParams n (by rw [← ha.ctors]; exact hn), ?_, ?_, ?_⟩
    · intro d hd
      rw [ha.len] at hd
      rcases Nat.lt_succ_iff_lt_or_eq.mp hd with hlt | rfl
      · rw [ha.pre d hlt]; exact h.decoParams d hlt
      · exact ha.node.2.2
    · intro S k n hn hkk
      rw [ha.providers] at hn
      obtain ⟨a1, a2⟩ := h.provPlain S k n hn hkk
      exact ⟨by rw [hc]; exact a1, by unfold ctorKeys at a2 ⊢; rw [hc]; exact a2⟩
    · intro s' k d hdd hkk
      rw [hdec] at hdd
      have hold : aget (st.scope s').decorators k = some d → d < (apiDecorate ctx fn st i s cb info).1.decos.length ∧
          ((apiDecorate ctx fn st i s cb info).1.deco d).s = s' ∧
          ∃ slot decl, (false, k, slot, decl) ∈ slotDecoLeaves ctx.env ((apiDecorate ctx fn st i s cb info).1.deco d).results := by
        intro h0
        obtain ⟨a1, a2, a3⟩ := h.decoPlain s' k d h0 hkk
        exact ⟨by rw [ha.len]; omega, by rw [ha.pre d a1]; exact a2, by rw [ha.pre d a1]; exact a3⟩
      split at hdd
      · rename_i hc2
        rcases foldl_aset_key _ _ _ k d hdd with ⟨h1, h2⟩ | h1
        · subst h2
          obtain ⟨slot, decl, hm⟩ := resultKeys_plain ctx.env _ keys hk (slotsWF_names hwf) k h1 hkk
          exact ⟨by rw [ha.len]; omega, by rw [ha.node.1]; exact hc2.1, slot, decl, by rw [slotDecoLeaves_eq]; exact hm⟩
        · exact hold h1
      · exact hold hdd

theorem HomeOK.init : HomeOK ({} : St) := ⟨fun n hn => by simp at hn, fun d hd => by simp at hd⟩

theorem RegWF.init (env : TyEnv) : RegWF env ({} : St) where
  ctorParams n hn := by simp at hn
  decoParams d hd := by simp at hd
  provPlain S k n hn := by cases S <;> simp [St.scope, agetL, aget] at hn
  decoPlain s k d hd := by cases s <;> simp [St.scope, aget] at hd

structure NBInv (env : TyEnv) (st : St) : Prop where
  h : HInv st
  reg : RegInv st
  wf : RegWF env st
  home : HomeOK st
  cached : Cached env st

theorem NBInv.init (env : TyEnv) : NBInv env ({} : St) :=
  ⟨HInv.init, RegInv.init, RegWF.init env, HomeOK.init, Cached.init env⟩

theorem NBInv.ei {env : TyEnv} {st : St} (h : NBInv env st) : EI env st.ctors.length st.decos.length st :=
  ⟨⟨h.h.valid, rfl, rfl⟩, h.home, h.wf, h.cached⟩

theorem NBInv.provide {st : St} (ctx : Ctx) (h : NBInv ctx.env st) (fn : Fn) (i s : Nat) (o : ProvideOpts)
    (hs : s < st.scopes.length) : NBInv ctx.env (apiProvide ctx fn st i s o).1 := by
  refine ⟨h.h.provide ctx fn i s o, h.reg.provide ctx fn i s o hs, h.wf.provide ctx h.reg fn i s o hs, ?_, ?_⟩
  · rcases apiProvide_reg2 ctx fn st i s o with he | ⟨results, keys, ha⟩
    · exact h.home.same he.ctors.symm he.decos.symm (Nat.le_of_eq he.scopesLen)
    · have ht : (if o.export_ then St.root else s) < st.scopes.length := by
        split
        · exact h.reg.nonempty
        · exact hs
      refine ⟨?_, ?_⟩
      · intro n hn
        rw [ha.len] at hn
        rw [ha.scopesLen]
        rcases Nat.lt_succ_iff_lt_or_eq.mp hn with hlt | rfl
        · rw [ha.pre n hlt]; exact h.home.ctor n hlt
        · rw [ha.node.2]; exact ht
      · intro d hd
        have : (apiProvide ctx fn st i s o).1.deco d = st.deco d := deco_of_decos_eq ha.decos _
        rw [this, ha.scopesLen]
        exact h.home.deco d (by rw [← ha.decos]; exact hd)
  · have hcs := cacheSame_apiProvide ctx fn st i s o
    have hsv : ∀ j, ((apiProvide ctx fn st i s o).1.scope j).values = (st.scope j).values ∧
        ((apiProvide ctx fn st i s o).1.scope j).decoratedValues = (st.scope j).decoratedValues :=
      fun j => ⟨hcs.values j, hcs.decoratedValues j⟩
    rcases apiProvide_reg2 ctx fn st i s o with he | ⟨results, keys, ha⟩
    · exact h.cached.desc (by rw [he.ctors]) (desc2_of_ctors_eq he.ctors.symm) he.decos.symm hsv
    · refine h.cached.transfer ?_ ?_ hsv
      · intro n hn hcl
        rw [ha.len] at hn
        rcases Nat.lt_succ_iff_lt_or_eq.mp hn with hlt | rfl
        · rw [ha.pre n hlt] at hcl ⊢; exact ⟨hlt, hcl, rfl, rfl⟩
        · rw [ha.fresh] at hcl; cases hcl
      · intro d hd hst
        have : (apiProvide ctx fn st i s o).1.deco d = st.deco d := deco_of_decos_eq ha.decos _
        rw [this] at hst ⊢
        exact ⟨by rw [← ha.decos]; exact hd, hst, rfl, rfl⟩

theorem NBInv.decorate {st : St} (ctx : Ctx) (h : NBInv ctx.env st) (fn : Fn) (i s : Nat) (cb info : Bool)
    (hs : s < st.scopes.length) : NBInv ctx.env (apiDecorate ctx fn st i s cb info).1 := by
  refine ⟨h.h.decorate ctx fn i s cb info, h.reg.decorate ctx fn i s cb info, h.wf.decorate ctx fn i s cb info, ?_, ?_⟩
  · rcases apiDecorate_reg ctx fn st i s cb info with he | ha
    · rw [he]; exact h.home
    · refine ⟨?_, ?_⟩
      · intro n hn
        have : (apiDecorate ctx fn st i s cb info).1.ctor n = st.ctor n := ctor_of_ctors_eq ha.ctors _
        rw [this, ha.scopesLen]
        exact h.home.ctor n (by rw [← ha.ctors]; exact hn)
      · intro d hd
        rw [ha.len] at hd
        rw [ha.scopesLen]
        rcases Nat.lt_succ_iff_lt_or_eq.mp hd with hlt | rfl
        · rw [ha.pre d hlt]; exact h.home.deco d hlt
        · rw [ha.node.1]; exact hs
  · have hcs := cacheSame_apiDecorate ctx fn st i s cb info
    have hsv : ∀ j, ((apiDecorate ctx fn st i s cb info).1.scope j).values = (st.scope j).values ∧
        ((apiDecorate ctx fn st i s cb info).1.scope j).decoratedValues = (st.scope j).decoratedValues :=
      fun j => ⟨hcs.values j, hcs.decoratedValues j⟩
    rcases apiDecorate_reg ctx fn st i s cb info with he | ha
    · rw [he]; exact h.cached
    · refine h.cached.transfer ?_ ?_ hsv
      · intro n hn hcl
        have : (apiDecorate ctx fn st i s cb info).1.ctor n = st.ctor n := ctor_of_ctors_eq ha.ctors _
        rw [this] at hcl ⊢
        exact ⟨by rw [← ha.ctors]; exact hn, hcl, rfl, rfl⟩
      · intro d hd hst
        rw [ha.len] at hd
        rcases Nat.lt_succ_iff_lt_or_eq.mp hd with hlt | rfl
        · rw [ha.pre d hlt] at hst ⊢; exact ⟨hlt, hst, rfl, rfl⟩
        · rw [ha.node.2.1] at hst; cases hst

theorem NB3.invoke {st : St} (ctx : Ctx) (hh : HInv st) (h : NB3 ctx.env st) (fn : Fn) (s : Nat) (info : Bool) :
    NB3 ctx.env (apiInvoke ctx fn st s info).1 := by
  have hg := ghOnly_parseParams ctx.env st s fn
  refine (apiInvoke_inv (I := fun w => NB3 ctx.env w ∧ HInv w) ⟨h, hh⟩ ⟨h.ghOnly hg, hh.ghOnly hg⟩
    (fun w hw _ => ⟨?_, hw.2.modVerified s true⟩)
    (fun params w hw => ?_) (fun _ _ args w4 _ _ h4 => ⟨?_, h4.2.invokedBody ctx fn args⟩)).1
  · refine hw.1.same rfl rfl (by simp [St.modScope]) fun j => ?_
    rw [scope_modScope]
    split <;> exact ⟨rfl, rfl, rfl, rfl⟩
  · have hb := ei_buildList ctx _ _ (engineFuel w params) params s w
      ⟨⟨hw.2.valid, rfl, rfl⟩, hw.1.home, hw.1.wf, hw.1.cached⟩
    exact ⟨⟨hb.wf, hb.home, hb.cached⟩, hw.2.buildList ctx _ params s⟩
  · have hf := callBody_fields ctx .invoked fn args w4
    exact h4.1.same hf.2.1 hf.2.2.1 (by rw [hf.1]; exact Nat.le_refl _)
      (fun j => by rw [scope_of_scopes_eq hf.1 j]; exact ⟨rfl, rfl, rfl, rfl⟩)

theorem NBInv.nb3 {env : TyEnv} {st : St} (h : NBInv env st) : NB3 env st := ⟨h.wf, h.home, h.cached⟩

theorem NBInv.invoke {st : St} (ctx : Ctx) (h : NBInv ctx.env st) (fn : Fn) (s : Nat) (info : Bool) :
    NBInv ctx.env (apiInvoke ctx fn st s info).1 := by
  have h3 := NB3.invoke ctx h.h h.nb3 fn s info
  exact ⟨h.h.invoke ctx fn s info, h.reg.invoke ctx fn s info, h3.wf, h3.home, h3.cached⟩

theorem NBInv.scope {env : TyEnv} {st : St} (h : NBInv env st) (parent : Nat) : NBInv env (apiScope st parent) := by
  have h3 := h.nb3.scope parent
  exact ⟨h.h.scope parent, h.reg.scope parent, h3.wf, h3.home, h3.cached⟩

theorem NBInv.resetLog {env : TyEnv} {st : St} (h : NBInv env st) : NBInv env { st with log := [] } := by
  have h3 : NB3 env { st with log := [] } := h.nb3.same rfl rfl (Nat.le_refl _) (fun _ => ⟨rfl, rfl, rfl, rfl⟩)
  exact ⟨h.h.resetLog, h.reg.of_tables rfl rfl, h3.wf, h3.home, h3.cached⟩

theorem NBInv.stepInv (ctx : Ctx) (fns : List Fn) : StepInv ctx fns (NBInv ctx.env) where
  reset _ h := h.resetLog
  scope _ p h _ _ := h.scope p
  provide _ i s _ fn o h _ _ hs := h.provide ctx fn i s o hs
  decorate _ i s _ fn cb info h _ _ hs := h.decorate ctx fn i s cb info hs
  invoke _ s _ fn info h _ _ _ := h.invoke ctx fn s info

theorem NBInv.step {st : St} (ctx : Ctx) (h : NBInv ctx.env st) (fns : List Fn) (i : Nat) (op : Op) :
    NBInv ctx.env (Dig.step ctx fns st i op).1 :=
  step_inv (NBInv.stepInv ctx fns) h i op

theorem NBInv.runOps (ctx : Ctx) (fns : List Fn) (ops : List Op) (i : Nat) (st : St) (acc : List OpRes)
    (h : NBInv ctx.env st) : NBInv ctx.env (Dig.runOps ctx fns ops i st acc).1 :=
  runOps_inv (NBInv.stepInv ctx fns) ops i st acc h

/-- **Invoke never panics inside the resolver**: if an Invoke on a reachable container ends with a panic of dig's own,
    it was the acyclicity check that answered out-of-range / out-of-fuel (excluded separately) -/
theorem apiInvoke_nobug {st : St} (ctx : Ctx) (h : NBInv ctx.env st) (fn : Fn) (s : Nat) (info : Bool)
    (hv : (apiInvoke ctx fn st s info).2.v = .panicDig) :
    ∃ params w, parseParams ctx.env st s fn = (.ok params, w) ∧ invokeCheck w s = .error .panicDig := by
  revert hv
  refine apiInvoke_cases (P := fun x => x.2.v = .panicDig → ∃ params w, parseParams ctx.env st s fn = (.ok params, w) ∧
      invokeCheck w s = .error .panicDig) (fun _ _ hv => nomatch hv) (fun _ _ _ _ hv => nomatch hv)
    (fun _ _ _ _ _ _ _ hv => nomatch hv) (fun _ params w v hpp _ hck hv => ⟨params, w, hpp, by rw [hck]; exact congrArg _ hv⟩) ?_
  intro _ params w w3 hpp _ hck hv
  exfalso
  have hg := ghOnly_parseParams ctx.env st s fn
  rw [hpp] at hg
  have hwf := parseParams_wf ctx.env st s fn params w hpp
  have hw3 : NB3 ctx.env w3 ∧ HInv w3 := by
    rcases invokeCheck_ok hck with e | ⟨_, e⟩
    · rw [e]; exact ⟨h.nb3.ghOnly hg, h.h.ghOnly hg⟩
    · rw [e]
      refine ⟨(h.nb3.ghOnly hg).same rfl rfl (by simp [St.modScope]) fun j => ?_, (h.h.ghOnly hg).modVerified s true⟩
      rw [scope_modScope]
      split <;> exact ⟨rfl, rfl, rfl, rfl⟩
  have hei : EI ctx.env w3.ctors.length w3.decos.length w3 :=
    ⟨⟨hw3.2.valid, rfl, rfl⟩, hw3.1.home, hw3.1.wf, hw3.1.cached⟩
  have hnb := nb_wrapErr DErr.argsFailed
    ((engine_nobug ctx _ _ (engineFuel w3 params)).2.2.2.2.2 params s w3 hwf hei)
  unfold NB at hnb
  revert hv
  refine invokeRun_cases (P := fun x => x.2.v = .panicDig → False) (fun f w4 hbl hv => ?_) fun _ _ r _ _ _ _ hv => ?_
  · rw [hbl] at hnb
    cases f with
    | bug => exact hnb rfl
    | err e => cases hv
    | panic a b => cases hv
    | fuel => cases hv
  · cases r with
    | dry => cases hv
    | ok a b => cases hv
    | err x out => simp only [callVerdict] at hv; split at hv <;> cases hv
    | panic x => simp only [callVerdict] at hv; split at hv <;> cases hv

end Dig
