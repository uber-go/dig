import DigModel.Proofs.GraphMeaning
import DigModel.Proofs.GhBoundApi
/-
  `GM0` and `TreeInv` in every reachable container.
-/
namespace Dig

structure GT (st : St) : Prop where
  gm : GM0 st
  tree : TreeInv st

theorem GT.init : GT ({} : St) := ⟨GM0.init, TreeInv.init⟩

theorem GT.eqButVerified {a b : St} (h : GT a) (he : EqButVerified a b) : GT b :=
  ⟨h.gm.eqButVerified he, h.tree.transfer he.scopesLen.symm
    (fun j => ⟨(he.scope j).1.symm, (he.scope j).2.1.symm⟩)⟩

theorem GT.regFrame {a b : St} (h : GT a) (hf : RegFrame a b) : GT b :=
  ⟨h.gm.regFrame hf, h.tree.transfer hf.scopesLen.symm (fun j => ⟨(hf.scopeReg j).parent.symm, (hf.scopeReg j).children.symm⟩)⟩

theorem GT.modScope {w : St} (h : GT w) (s : Nat) (f : ScopeSt → ScopeSt)
    (hf : ∀ x, (f x).gh = x.gh ∧ (f x).parent = x.parent ∧ (f x).providers = x.providers ∧ (f x).children = x.children) :
    GT (w.modScope s f) :=
  ⟨h.gm.modScope s f (fun x => ⟨(hf x).1, (hf x).2.1, (hf x).2.2.1⟩),
   h.tree.transfer (by simp [St.modScope]) (fun j => by rw [scope_modScope]; split <;> simp [hf])⟩

theorem GT.newGraphNode {w : St} (h : GT w) (s : Nat) (node : GNode) (hv : NodeValid w node) : GT (w.newGraphNode s node) :=
  ⟨h.gm.newGraphNode s node hv, h.tree.newGraphNode s node⟩

theorem GT.addCtor {w : St} (h : GT w) (node : CtorNode) : GT { w with ctors := w.ctors ++ [node] } :=
  ⟨h.gm.addCtor node, h.tree.transfer rfl (fun _ => ⟨rfl, rfl⟩)⟩

theorem GT.addDecos {w : St} (h : GT w) (l : List DecoNode) : GT { w with decos := l } :=
  ⟨h.gm.addDecos l, h.tree.transfer rfl (fun _ => ⟨rfl, rfl⟩)⟩

theorem GT.resetLog {w : St} (h : GT w) : GT { w with log := [] } :=
  ⟨⟨h.gm.pos, h.gm.prov, h.gm.bnd⟩, h.tree.transfer rfl (fun _ => ⟨rfl, rfl⟩)⟩

structure GhAdd (node : GNode) (a b : St) : Prop where
  descs : b.pgs.map (·.desc) = a.pgs.map (·.desc)
  params : ∀ n, (b.ctor n).params = (a.ctor n).params
  ctorsLen : b.ctors.length = a.ctors.length
  back : ∀ j x, x ∈ (b.scope j).gh → x ∈ (a.scope j).gh ∨ x = node

theorem GhAdd.pgsLen {node : GNode} {a b : St} (h : GhAdd node a b) : b.pgs.length = a.pgs.length := by
  simpa using congrArg List.length h.descs

theorem ghStep_ghAdd (node : GNode) (w : St) (sc : Nat) : GhAdd node w (ghStep node w sc) where
  descs := by
    unfold Dig.ghStep
    cases node with
    | ctor n => rfl
    | pg i =>
      show ((w.modScope sc _).pgs.modify i _).map (·.desc) = w.pgs.map (·.desc)
      apply List.ext_getElem?
      intro j
      simp only [List.getElem?_map, List.getElem?_modify]
      have e : (w.modScope sc fun x => { x with gh := x.gh ++ [GNode.pg i] }).pgs = w.pgs := rfl
      rw [e]
      cases w.pgs[j]? with
      | none => rfl
      | some x => by_cases hij : i = j <;> simp [hij]
  params n := by
    unfold Dig.ghStep
    cases node with
    | ctor m =>
      show ((St.modCtor (w.modScope sc _) m _).ctor n).params = _
      rw [ctor_modCtor]
      split <;> rfl
    | pg i => rfl
  ctorsLen := (ghStep_len node w sc).2.1
  back j x hx := by
    rw [ghStep_scope] at hx
    split at hx
    · simp only [List.mem_append, List.mem_singleton] at hx; exact hx
    · exact Or.inl hx

theorem newGraphNode_ghAdd (w : St) (s : Nat) (node : GNode) : GhAdd node w (w.newGraphNode s node) := by
  rw [newGraphNode_eq]
  generalize w.subscopes s = l
  induction l generalizing w with
  | nil => exact ⟨rfl, fun _ => rfl, rfl, fun _ _ h => Or.inl h⟩
  | cons x xs ih =>
    have h1 := ghStep_ghAdd node w x
    have h2 := ih (ghStep node w x)
    exact ⟨h2.descs.trans h1.descs, fun n => (h2.params n).trans (h1.params n), h2.ctorsLen.trans h1.ctorsLen,
      fun j y hy => (h2.back j y hy).elim (h1.back j y) Or.inr⟩

theorem addPGNodes_inv {I : Nat → St → Prop} (w : St) (s : Nat) (descs : List PGDesc)
    (h0 : I 0 { w with pgs := w.pgs ++ (descs.drop w.pgs.length).map fun d => ({ desc := d } : PGNode) })
    (hstep : ∀ k v, I k v → k < descs.length - w.pgs.length → I (k + 1) (v.newGraphNode s (.pg (w.pgs.length + k)))) :
    I (descs.length - w.pgs.length) (addPGNodes w s w.pgs.length descs) := by
  unfold Dig.addPGNodes
  simp only
  generalize ({ w with pgs := w.pgs ++ (descs.drop w.pgs.length).map fun d => ({ desc := d } : PGNode) } : St) = v0 at h0
  generalize descs.length - w.pgs.length = N at hstep ⊢
  have key : ∀ n, n ≤ N → I n ((List.range n).foldl (fun st j => st.newGraphNode s (.pg (w.pgs.length + j))) v0) := by
    intro n
    induction n with
    | zero => intro _; exact h0
    | succ n ih =>
      intro hn
      rw [List.range_succ, List.foldl_append]
      exact hstep n _ (ih (by omega)) (by omega)
  exact key N (Nat.le_refl _)

theorem GT.addPGNodes {w : St} (h : GT w) (s : Nat) (descs : List PGDesc) :
    GT (addPGNodes w s w.pgs.length descs) :=
  (addPGNodes_inv (I := fun _ v => GT v ∧ v.pgs.length = w.pgs.length + (descs.length - w.pgs.length)) w s descs
    ⟨⟨h.gm.addPgs _, h.tree.transfer rfl fun _ => ⟨rfl, rfl⟩⟩, by simp⟩
    fun k v hv hk => ⟨hv.1.newGraphNode s _ (by show w.pgs.length + k < v.pgs.length; rw [hv.2]; omega),
      by rw [(newGraphNode_ghAdd v s _).pgsLen]; exact hv.2⟩).1

theorem GT.parseParams {st : St} (h : GT st) (env : TyEnv) (s : Nat) (fn : Fn) : GT (Dig.parseParams env st s fn).2 := by
  unfold Dig.parseParams
  simp only
  have : (st.pgs.map (·.desc)).length = st.pgs.length := by simp
  rw [this]
  exact h.addPGNodes s _

theorem verifyScopes_tree (cfg : Cfg) : ∀ (l : List Nat) (w : St),
    (Dig.verifyScopes cfg l w).2.scopes.length = w.scopes.length ∧
    ∀ j, ((Dig.verifyScopes cfg l w).2.scope j).parent = (w.scope j).parent ∧
         ((Dig.verifyScopes cfg l w).2.scope j).children = (w.scope j).children := by
  intro l
  induction l with
  | nil => intro w; exact ⟨rfl, fun _ => ⟨rfl, rfl⟩⟩
  | cons sc rest ih =>
    intro w
    simp only [Dig.verifyScopes]
    have h1 : (w.modScope sc fun x => { x with verified := false }).scopes.length = w.scopes.length ∧
        ∀ j, ((w.modScope sc fun x => { x with verified := false }).scope j).parent = (w.scope j).parent ∧
             ((w.modScope sc fun x => { x with verified := false }).scope j).children = (w.scope j).children :=
      ⟨by simp [St.modScope], fun j => by rw [scope_modScope]; split <;> exact ⟨rfl, rfl⟩⟩
    split
    · obtain ⟨a, b⟩ := ih (w.modScope sc fun x => { x with verified := false })
      exact ⟨a.trans h1.1, fun j => ⟨(b j).1.trans (h1.2 j).1, (b j).2.trans (h1.2 j).2⟩⟩
    · split
      · obtain ⟨a, b⟩ := ih ((w.modScope sc fun x => { x with verified := false }).modScope sc fun x => { x with verified := true })
        have h2 : ((w.modScope sc fun x => { x with verified := false }).modScope sc fun x => { x with verified := true }).scopes.length = w.scopes.length ∧
            ∀ j, (((w.modScope sc fun x => { x with verified := false }).modScope sc fun x => { x with verified := true }).scope j).parent = (w.scope j).parent ∧
                 (((w.modScope sc fun x => { x with verified := false }).modScope sc fun x => { x with verified := true }).scope j).children = (w.scope j).children :=
          ⟨by simp [St.modScope], fun j => by
            rw [scope_modScope]
            split
            · exact ⟨(h1.2 j).1, (h1.2 j).2⟩
            · exact h1.2 j⟩
        exact ⟨a.trans h2.1, fun j => ⟨(b j).1.trans (h2.2 j).1, (b j).2.trans (h2.2 j).2⟩⟩
      · exact h1

theorem GT.verifyScopes {w : St} (h : GT w) (cfg : Cfg) (l : List Nat) : GT (Dig.verifyScopes cfg l w).2 :=
  ⟨h.gm.graphSame (graphSame_verifyScopes cfg l w),
   h.tree.transfer (verifyScopes_tree cfg l w).1 (verifyScopes_tree cfg l w).2⟩

theorem newGraphNode_facts (w : St) (s : Nat) (node : GNode) :
    (w.newGraphNode s node).scopes.length = w.scopes.length ∧
    (∀ j, ((w.newGraphNode s node).scope j).parent = (w.scope j).parent ∧
          ((w.newGraphNode s node).scope j).children = (w.scope j).children ∧
          ((w.newGraphNode s node).scope j).providers = (w.scope j).providers) ∧
    (∀ j x, x ∈ (w.scope j).gh → x ∈ ((w.newGraphNode s node).scope j).gh) ∧
    (∀ sc ∈ w.subscopes s, sc < w.scopes.length → node ∈ ((w.newGraphNode s node).scope sc).gh) := by
  rw [newGraphNode_eq]; exact foldGhStep_facts node (w.subscopes s) w

theorem newGraphNode_subscopes (w : St) (s : Nat) (node : GNode) (t : Nat) :
    (w.newGraphNode s node).subscopes t = w.subscopes t := by
  obtain ⟨a1, a2, _, _⟩ := newGraphNode_facts w s node
  exact subscopes_congr a1 (fun j => (a2 j).2.1) t

theorem GT.register {st : St} (h : GT st) {ctx : Ctx} {fn : Fn} {i s : Nat} {o : ProvideOpts} {target : Nat}
    {params : List Param} {results : List RSlot} {n : Nat} {w : St}
    (hreg : provideRegister ctx fn st i s o = .ok (target, params, results, n, w)) : GT w := by
  obtain ⟨_, w1, w3, keys, _, _, _, hpp, _, rfl, hw3, _, _, rfl⟩ := provideRegister_ok_eq hreg
  have h1 := h.parseParams ctx.env target fn
  rw [hpp] at h1
  have h3 : GT w3 := by
    rw [hw3]
    exact (h1.addCtor _).newGraphNode target _ (by show w1.ctors.length < (w1.ctors ++ [_]).length; simp)
  have hmem : ∀ sc ∈ w3.subscopes target, sc < w3.scopes.length → GNode.ctor w1.ctors.length ∈ (w3.scope sc).gh := by
    rw [hw3]
    intro sc hsc hlt
    rw [newGraphNode_subscopes] at hsc
    rw [(newGraphNode_facts _ target _).1] at hlt
    exact newGraphNode_mem _ target _ sc hsc hlt
  rw [modScope_self w3 target fun y x =>
    { x with providers := keys.foldl (fun m k => aset m k (agetL m k ++ [w1.ctors.length])) y.providers }]
  exact ⟨h3.gm.addProviders h3.tree target w1.ctors.length keys hmem,
    h3.tree.transfer (by simp [St.modScope]) fun j => by rw [scope_modScope]; split <;> exact ⟨rfl, rfl⟩⟩

theorem GT.provide {st : St} (h : GT st) (ctx : Ctx) (fn : Fn) (i s : Nat) (o : ProvideOpts) :
    GT (apiProvide ctx fn st i s o).1 :=
  apiProvide_inv (fun _ => h.eqButVerified) (fun _ _ _ _ _ => h.register) (fun _ l hw => hw.verifyScopes ctx.cfg l)
    fun _ t _ hw => hw.modScope t _ fun _ => ⟨rfl, rfl, rfl, rfl⟩

theorem GT.decorate {st : St} (h : GT st) (ctx : Ctx) (fn : Fn) (i s : Nat) (cb info : Bool) :
    GT (apiDecorate ctx fn st i s cb info).1 :=
  apiDecorate_inv h (h.parseParams ctx.env s fn) fun _ _ _ hw =>
    (hw.addDecos _).modScope s _ fun _ => ⟨rfl, rfl, rfl, rfl⟩

theorem GT.scope {st : St} (h : GT st) (parent : Nat) (hp : parent < st.scopes.length) : GT (apiScope st parent) :=
  ⟨h.gm.scope h.tree parent hp, h.tree.scope parent hp⟩

theorem GT.invoke {st : St} (h : GT st) (ctx : Ctx) (fn : Fn) (s : Nat) (info : Bool) : GT (apiInvoke ctx fn st s info).1 :=
  apiInvoke_inv_frame h (h.parseParams ctx.env s fn) (fun _ hw _ => hw.modScope s _ fun _ => ⟨rfl, rfl, rfl, rfl⟩)
    fun _ _ => GT.regFrame

theorem GT.stepInv (ctx : Ctx) (fns : List Fn) : StepInv ctx fns GT where
  reset _ h := h.resetLog
  scope _ p h _ hp := h.scope p hp
  provide _ i s _ fn o h _ _ _ := h.provide ctx fn i s o
  decorate _ i s _ fn cb info h _ _ _ := h.decorate ctx fn i s cb info
  invoke _ s _ fn info h _ _ _ := h.invoke ctx fn s info

theorem GT.step {st : St} (h : GT st) (ctx : Ctx) (fns : List Fn) (i : Nat) (op : Op) : GT (Dig.step ctx fns st i op).1 :=
  step_inv (GT.stepInv ctx fns) h i op

theorem gt_program (p : Program) : GT (runProgram p).1 := runOps_inv (GT.stepInv p.ctx p.fns) p.ops 0 {} [] GT.init

end Dig
