import DigModel.Proofs.AList
/-
  The walks over the scope tree read `parent` (upwards) and `children` (downwards) only: containers that agree on
  these have the same ancestors and the same subscopes.
-/
namespace Dig

theorem ancestorsAux_congr (a b : List ScopeSt) (hl : a.length = b.length)
    (hp : ∀ j, (a.getD j { parent := none }).parent = (b.getD j { parent := none }).parent) :
    ∀ fuel s, ancestorsAux a fuel s = ancestorsAux b fuel s := by
  intro fuel
  induction fuel with
  | zero => intro s; rfl
  | succ fuel ih =>
    intro s
    by_cases hs : s < a.length
    · have hsb : s < b.length := hl ▸ hs
      have h1 := hp s
      rw [List.getD_eq_getElem?_getD, List.getD_eq_getElem?_getD, List.getElem?_eq_getElem hs,
        List.getElem?_eq_getElem hsb] at h1
      simp only [ancestorsAux, List.getElem?_eq_getElem hs, List.getElem?_eq_getElem hsb]
      rw [show a[s].parent = b[s].parent from h1]
      cases b[s].parent with
      | none => rfl
      | some p => exact congrArg _ (ih p)
    · rw [ancestorsAux, ancestorsAux, List.getElem?_eq_none (Nat.le_of_not_lt hs),
        List.getElem?_eq_none (hl ▸ Nat.le_of_not_lt hs)]

theorem ancestors_congr {a b : St} (hl : a.scopes.length = b.scopes.length)
    (hp : ∀ j, (a.scope j).parent = (b.scope j).parent) (s : Nat) : a.ancestors s = b.ancestors s := by
  unfold St.ancestors
  rw [hl]
  exact ancestorsAux_congr _ _ hl hp _ _

theorem subscopesAux_congr (a b : List ScopeSt) (hl : a.length = b.length)
    (hc : ∀ j, (a.getD j { parent := none }).children = (b.getD j { parent := none }).children) :
    ∀ fuel s, subscopesAux a fuel s = subscopesAux b fuel s := by
  intro fuel
  induction fuel with
  | zero => intro s; rfl
  | succ fuel ih =>
    intro s
    simp only [subscopesAux]
    by_cases hs : s < a.length
    · have hsb : s < b.length := by omega
      have h1 := hc s
      simp only [List.getD_eq_getElem?_getD, List.getElem?_eq_getElem hs, List.getElem?_eq_getElem hsb, Option.getD_some] at h1 ⊢
      simp only [h1]
      congr 1
      exact flatMap_congr' _ _ _ (fun x _ => ih x)
    · have h1 : a[s]? = none := by simp; omega
      have h2 : b[s]? = none := by simp; omega
      simp [h1, h2]

theorem subscopes_congr {a b : St} (hl : a.scopes.length = b.scopes.length)
    (hc : ∀ j, (a.scope j).children = (b.scope j).children) (s : Nat) : a.subscopes s = b.subscopes s := by
  unfold St.subscopes
  rw [hl]
  exact subscopesAux_congr _ _ hl hc _ _

theorem ancestors_mem_lt {st : St} {c s : Nat} (h : s ∈ st.ancestors c) : c < st.scopes.length :=
  Nat.lt_of_not_le fun hc => by
    unfold St.ancestors at h
    cases hl : st.scopes.length with
    | zero => rw [hl] at h; cases h
    | succ f => rw [hl, ancestorsAux, List.getElem?_eq_none hc] at h; cases h

end Dig
