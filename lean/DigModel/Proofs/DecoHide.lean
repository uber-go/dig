import DigModel.Proofs.VSet
import DigModel.Proofs.Lookup
/-
  A decorator that is running is invisible: while decorator `d` is on the stack, the resolver behaves — same results,
  same executions, same state changes — exactly as it does in the container whose decorator tables do not mention `d`
  at all.  So what a decorator receives for the key it decorates is what a consumer in its scope would receive if the
  decorator had never been registered: the next outer decorator's output, otherwise the provided value.
-/
namespace Dig

def dset (T : Nat → List (Key × Nat)) (st : St) : St :=
  { st with scopes := st.scopes.mapIdx fun j x => { x with decorators := T j } }

theorem dset_len (T : Nat → List (Key × Nat)) (st : St) : (dset T st).scopes.length = st.scopes.length := mapScopes_len _ st

theorem dset_scope (T : Nat → List (Key × Nat)) (st : St) (j : Nat) :
    (dset T st).scope j = if j < st.scopes.length then { st.scope j with decorators := T j } else st.scope j :=
  mapScopes_scope _ st j

@[simp] theorem dset_ctor (T : Nat → List (Key × Nat)) (st : St) (n : Nat) : (dset T st).ctor n = st.ctor n := rfl
@[simp] theorem dset_deco (T : Nat → List (Key × Nat)) (st : St) (d : Nat) : (dset T st).deco d = st.deco d := rfl
@[simp] theorem dset_clock (T : Nat → List (Key × Nat)) (st : St) : (dset T st).clock = st.clock := rfl
@[simp] theorem dset_log (T : Nat → List (Key × Nat)) (st : St) : (dset T st).log = st.log := rfl
@[simp] theorem dset_execCount (T : Nat → List (Key × Nat)) (st : St) (f : Nat) : (dset T st).execCount f = st.execCount f := rfl

theorem decorators_blind (t : List (Key × Nat)) : CacheBlind fun x => { x with decorators := t } :=
  ⟨fun _ _ => rfl, fun _ _ => rfl, fun _ _ => rfl, fun _ _ => rfl⟩

def hideD (d : Nat) : Option Nat → Option Nat
  | some d' => if d' = d then none else some d'
  | none => none

structure Hid (d : Nat) (T : Nat → List (Key × Nat)) (st : St) : Prop where
  running : (st.deco d).state = .onStack
  tables : ∀ j k, aget (T j) k = if j < st.scopes.length then hideD d (aget (st.scope j).decorators k) else none

def CommD (d : Nat) (T : Nat → List (Key × Nat)) {α : Type} (m : EM α) : Prop :=
  ∀ st, Hid d T st → m (dset T st) = ((m st).1, dset T (m st).2) ∧ Hid d T (m st).2

theorem commd_iff_sim {d : Nat} {T : Nat → List (Key × Nat)} {α : Type} {m : EM α} :
    CommD d T m ↔ ∀ a b, MapRel (dset T) (Hid d T) a b → Sim (MapRel (dset T) (Hid d T)) (Upto True) (m a) (m b) :=
  ⟨fun h a _ hab => hab.1 ▸ sim_map_iff.mpr (h a hab.2), fun h st hs => sim_map_iff.mp (h st _ ⟨rfl, hs⟩)⟩

section
variable (d : Nat) (T : Nat → List (Key × Nat))

theorem commd_fail {α : Type} (e : Fail) : CommD d T (EM.fail e : EM α) := fun _ h => ⟨rfl, h⟩

end

theorem Hid.of_regFrame {d : Nat} {T : Nat → List (Key × Nat)} {a b : St} (h : Hid d T a) (hf : RegFrame a b)
    (hd : (b.deco d).state = (a.deco d).state) : Hid d T b where
  running := by rw [hd]; exact h.running
  tables j k := by
    rw [h.tables j k, hf.scopesLen, (hf.scopeReg j).decorators]

theorem Hid.modCtor {d : Nat} {T : Nat → List (Key × Nat)} {st : St} (h : Hid d T st) (n : Nat) (f : CtorNode → CtorNode) :
    Hid d T (st.modCtor n f) :=
  ⟨h.running, fun j k => h.tables j k⟩

theorem Hid.modDeco {d : Nat} {T : Nat → List (Key × Nat)} {st : St} (h : Hid d T st) (d' : Nat) (hne : d' ≠ d) (f : DecoNode → DecoNode) :
    Hid d T (st.modDeco d' f) := by
  refine ⟨?_, fun j k => h.tables j k⟩
  rw [deco_modDeco, if_neg (fun hc => hne hc.1)]
  exact h.running

/-- the decorator look-up skips `d` in the container, and does not find it in the container without it -/
theorem dset_findDeco {d : Nat} {T : Nat → List (Key × Nat)} {st : St} (h : Hid d T st) (k : Key) : ∀ anc,
    findDeco (dset T st) k anc = findDeco st k anc := by
  intro anc
  induction anc with
  | nil => rfl
  | cons s rest ih =>
    simp only [findDeco, dset_deco, ih]
    have ht := h.tables s k
    rw [dset_scope]
    by_cases hsl : s < st.scopes.length
    · simp only [hsl, if_true] at ht ⊢
      rw [ht]
      cases aget (st.scope s).decorators k with
      | none => rfl
      | some d' =>
        simp only [hideD]
        by_cases hd : d' = d
        · subst hd
          simp only [if_true, h.running, beq_self_eq_true]
        · simp only [hd, if_false]
    · simp only [hsl, if_false]

theorem dset_reads (d : Nat) (T : Nat → List (Key × Nat)) : Reads (MapRel (dset T) (Hid d T)) True :=
  mapScopes_reads _ (fun _ _ => ⟨rfl, rfl, rfl, rfl, rfl, rfl⟩) fun _ h => dset_findDeco h

theorem dset_leaf (d : Nat) (T : Nat → List (Key × Nat)) (ctx : Ctx) :
    Leaf ctx ctx (MapRel (dset T) (Hid d T)) (· ≠ d) True where
  toReads := dset_reads d T
  env := rfl
  sameIds := rfl
  okDeco := by
    -- `findDeco` returns no decorator that is on the stack
    rintro a _ ⟨-, h⟩ k anc d' s hfd rfl
    obtain ⟨_, _, _, _, hst, _⟩ := findDeco_spec a k anc d' s hfd
    exact hst h.running
  modCtor := by rintro a _ ⟨rfl, h⟩ n f; exact ⟨rfl, h.modCtor n f⟩
  modDeco := by rintro a _ ⟨rfl, h⟩ d' hne f; exact ⟨rfl, h.modDeco d' hne f⟩
  ctorTail := by
    rintro a _ ⟨rfl, h⟩ n node args _ e
    cases e trivial
    refine sim_map_iff.mpr ⟨mapScopes_ctorTail _ (fun s => decorators_blind (T s)) ctx n node args a,
      h.of_regFrame (regFrame_ctorTail ctx a n node args) ?_⟩
    simp only [St.deco, ctorTail_decos]
  decoTail := by
    rintro a _ ⟨rfl, h⟩ d' hne node args _ e
    cases e trivial
    refine sim_map_iff.mpr ⟨mapScopes_decoTail _ (fun s => decorators_blind (T s)) ctx d' node args a,
      h.of_regFrame (regFrame_decoTail ctx a d' node args) ?_⟩
    rw [decoTail_deco, if_neg (fun h => hne h.2.1)]

theorem commd_engine (d : Nat) (T : Nat → List (Key × Nat)) (ctx : Ctx) :
    ∀ fuel,
      (∀ n c, CommD d T (callCtor ctx fuel n c)) ∧
      (∀ d' s, d' ≠ d → CommD d T (callDeco ctx fuel d' s)) ∧
      (∀ k opt c, CommD d T (buildSingle ctx fuel k opt c)) ∧
      (∀ k soft c, CommD d T (buildGroup ctx fuel k soft c)) ∧
      (∀ p c, CommD d T (buildParam ctx fuel p c)) ∧
      (∀ ps c, CommD d T (buildList ctx fuel ps c)) := by
  intro fuel
  obtain ⟨hC, hD, hS, hG, hP, hL⟩ := engine_sim (dset_leaf d T ctx) fuel
  exact ⟨fun n c => commd_iff_sim.mpr (hC n c), fun d' s hne => commd_iff_sim.mpr fun a b => hD d' s a b hne,
    fun k opt c => commd_iff_sim.mpr (hS k opt c), fun k soft c => commd_iff_sim.mpr (hG k soft c),
    fun p c => commd_iff_sim.mpr (hP p c), fun ps c => commd_iff_sim.mpr (hL ps c)⟩

/-- a table with the entries for `d` taken out (and, as `aget` reads the first entry of a key only, later entries of a
    key already met dropped) -/
def hideAux (d : Nat) : List Key → List (Key × Nat) → List (Key × Nat)
  | _, [] => []
  | seen, (k, d') :: rest =>
    if k ∈ seen then hideAux d seen rest
    else if d' = d then hideAux d (k :: seen) rest
    else (k, d') :: hideAux d (k :: seen) rest

theorem aget_hideAux (d : Nat) : ∀ (l : List (Key × Nat)) (seen : List Key) (k : Key),
    aget (hideAux d seen l) k = if k ∈ seen then none else hideD d (aget l k) := by
  intro l
  induction l with
  | nil => intro seen k; simp only [hideAux, aget, hideD, ite_self]
  | cons p rest ih =>
    intro seen k
    obtain ⟨k1, d1⟩ := p
    simp only [hideAux, aget]
    by_cases he : k1 = k
    · subst he
      by_cases hk : k1 ∈ seen <;> by_cases hd : d1 = d <;>
        simp only [hk, hd, ih, hideD, aget, if_true, if_false, beq_self_eq_true, List.mem_cons, true_or]
    · have hb : (k1 == k) = false := beq_false_of_ne he
      have hm : (k ∈ k1 :: seen) = (k ∈ seen) := by simp only [List.mem_cons, Ne.symm he, false_or]
      by_cases hk1 : k1 ∈ seen <;> by_cases hd : d1 = d <;>
        simp only [hk1, hd, ih, aget, hb, hm, if_true, if_false, Bool.false_eq_true]

def tablesWithout (d : Nat) (st : St) : Nat → List (Key × Nat) :=
  fun j => if j < st.scopes.length then hideAux d [] (st.scope j).decorators else []

theorem hid_tablesWithout (d : Nat) (st : St) (h : (st.deco d).state = .onStack) : Hid d (tablesWithout d st) st where
  running := h
  tables j k := by
    unfold tablesWithout
    by_cases hj : j < st.scopes.length
    · simp only [hj, if_true, aget_hideAux, List.not_mem_nil, if_false]
    · simp only [hj, if_false]
      rfl

end Dig
