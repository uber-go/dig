import DigModel.Proofs.JustApi
/-
  Cache justification for the three other caches of a scope: value-group members, decorated single
  values and decorated groups.  Same shape as `Just`: whatever sits in a cache of scope `S` was
  written by a successful execution of a node of `S` whose results declare that key.
-/
namespace Dig

mutual
/-- group keys fed by a result tree: key, slot, declared type, flatten -/
def groupLeaves : Result → List (Key × Nat × Nat × Bool)
  | .single _ _ _ _ _ => []
  | .grouped slot decl ty group flatten as =>
    if flatten then [(({ ty := ty, name := "", group := group } : Key), slot, decl, true)]
    else (ty :: as).map fun t => (({ ty := t, name := "", group := group } : Key), slot, decl, false)
  | .object _ fs => groupLeavesL fs
def groupLeavesL : List Result → List (Key × Nat × Nat × Bool)
  | [] => []
  | r :: rs => groupLeaves r ++ groupLeavesL rs
end

def slotGroupLeaves : List RSlot → List (Key × Nat × Nat × Bool)
  | [] => []
  | .err :: rest => slotGroupLeaves rest
  | .val r :: rest => groupLeaves r ++ slotGroupLeaves rest

mutual
/-- what a decorator's results replace: single keys (first component `false`) and group keys (`true`) -/
def decoLeaves (env : TyEnv) : Result → List (Bool × Key × Nat × Nat)
  | .single slot decl ty name _ => [(false, ({ ty := ty, name := name, group := "" } : Key), slot, decl)]
  | .grouped slot decl ty group _ _ => [(true, ({ ty := (elemOfId env ty).getD 0, name := "", group := group } : Key), slot, decl)]
  | .object _ fs => decoLeavesL env fs
def decoLeavesL (env : TyEnv) : List Result → List (Bool × Key × Nat × Nat)
  | [] => []
  | r :: rs => decoLeaves env r ++ decoLeavesL env rs
end

def slotDecoLeaves (env : TyEnv) : List RSlot → List (Bool × Key × Nat × Nat)
  | [] => []
  | .err :: rest => slotDecoLeaves env rest
  | .val r :: rest => decoLeaves env r ++ slotDecoLeaves env rest

def memberOf (env : TyEnv) (r : Ret) (slot decl : Nat) (fl : Bool) (v : Val) : Prop :=
  if fl then v ∈ elemsOf (r.val env slot decl) else v = r.val env slot decl

def CW.grpLeaf : CW → Option (Key × Nat × Nat × Bool)
  | .grp k slot decl fl => some (k, slot, decl, fl)
  | _ => none

theorem groupLeaves_writes (x : Result) : groupLeaves x = (resultWrites x).filterMap CW.grpLeaf := by
  apply decoWrites.induct (fun x => groupLeaves x = (resultWrites x).filterMap CW.grpLeaf)
    (fun xs => groupLeavesL xs = (resultWritesL xs).filterMap CW.grpLeaf)
  · intro s d ty name as; simp [groupLeaves, resultWrites, CW.grpLeaf]
  · intro s d ty group flatten as
    cases flatten <;> simp [groupLeaves, resultWrites, CW.grpLeaf, Function.comp_def]
  · intro ty fs ih; simp only [groupLeaves, resultWrites]; exact ih
  · rfl
  · intro x xs ih1 ih2; simp only [groupLeavesL, resultWritesL, List.filterMap_append, ih1, ih2]

theorem slotGroupLeaves_writes (env : TyEnv) : ∀ (slots : List RSlot),
    slotGroupLeaves slots = (writes env false slots).filterMap CW.grpLeaf := by
  intro slots
  induction slots with
  | nil => rfl
  | cons s rest ih =>
    cases s with
    | err => exact ih
    | val x =>
      simp only [slotGroupLeaves, writes, Bool.false_eq_true, if_false, List.filterMap_append, groupLeaves_writes, ih]

theorem mem_slotGroupLeaves (env : TyEnv) (k : Key) (slot decl : Nat) (fl : Bool) (slots : List RSlot) :
    (k, slot, decl, fl) ∈ slotGroupLeaves slots ↔ CW.grp k slot decl fl ∈ writes env false slots := by
  rw [slotGroupLeaves_writes env, List.mem_filterMap]
  constructor
  · rintro ⟨w, hw, he⟩
    cases w <;> cases he
    exact hw
  · intro h; exact ⟨_, h, rfl⟩

def decoCache (g : Bool) : Cache := if g then .dgroups else .dvalues

theorem mem_decoLeaves (env : TyEnv) (g : Bool) (k : Key) (slot decl : Nat) (x : Result) :
    (g, k, slot, decl) ∈ decoLeaves env x ↔ (decoCache g).cw k slot decl ∈ decoWrites env x := by
  apply decoWrites.induct (fun x => (g, k, slot, decl) ∈ decoLeaves env x ↔ (decoCache g).cw k slot decl ∈ decoWrites env x)
    (fun xs => (g, k, slot, decl) ∈ decoLeavesL env xs ↔ (decoCache g).cw k slot decl ∈ decoWritesL env xs)
  · intro s d ty name as; cases g <;> simp [decoLeaves, decoWrites, decoCache, Cache.cw]
  · intro s d ty group flatten as; cases g <;> simp [decoLeaves, decoWrites, decoCache, Cache.cw]
  · intro ty fs ih; simp only [decoLeaves, decoWrites]; exact ih
  · simp only [decoLeavesL, decoWritesL, List.not_mem_nil]
  · intro x xs ih1 ih2; simp only [decoLeavesL, decoWritesL, List.mem_append, ih1, ih2]

theorem mem_slotDecoLeaves (env : TyEnv) (g : Bool) (k : Key) (slot decl : Nat) : ∀ (slots : List RSlot),
    (g, k, slot, decl) ∈ slotDecoLeaves env slots ↔ (decoCache g).cw k slot decl ∈ writes env true slots := by
  intro slots
  induction slots with
  | nil => simp only [slotDecoLeaves, writes, List.not_mem_nil]
  | cons s rest ih =>
    cases s with
    | err => exact ih
    | val x => simp [slotDecoLeaves, writes, mem_decoLeaves, ih]

theorem foldl_apply_groups (env : TyEnv) (r : Ret) : ∀ (ws : List CW) (sc : ScopeSt) (k : Key) (v : Val),
    v ∈ agetL (ws.foldl (CW.apply env r) sc).groups k →
      v ∈ agetL sc.groups k ∨ ∃ slot decl fl, CW.grp k slot decl fl ∈ ws ∧ memberOf env r slot decl fl v := by
  intro ws
  induction ws with
  | nil => intro sc k v h; exact Or.inl h
  | cons w ws ih =>
    intro sc k v h
    rcases ih _ k v h with h1 | ⟨slot, decl, fl, hm, hv⟩
    · cases w with
      | grp k' slot decl fl =>
        rw [CW.apply, submitAll, agetL_aset] at h1
        split at h1
        · rename_i hk; cases hk
          rcases List.mem_append.mp h1 with h2 | h2
          · exact Or.inl h2
          · refine Or.inr ⟨slot, decl, fl, List.mem_cons_self, ?_⟩
            cases fl
            · exact List.mem_singleton.mp h2
            · exact h2
        · exact Or.inl h1
      | val => exact Or.inl h1
      | dval => exact Or.inl h1
      | dgrp => exact Or.inl h1
    · exact Or.inr ⟨slot, decl, fl, List.mem_cons_of_mem _ hm, hv⟩

theorem extractSlots_groups (env : TyEnv) (r : Ret) (slots : List RSlot) (sc : ScopeSt) (k : Key) (v : Val)
    (h : v ∈ agetL (extractSlots env false r sc slots).groups k) :
    v ∈ agetL sc.groups k ∨ ∃ slot decl fl, (k, slot, decl, fl) ∈ slotGroupLeaves slots ∧ memberOf env r slot decl fl v := by
  rw [extractSlots_eq_foldl] at h
  simp only [mem_slotGroupLeaves env]
  exact foldl_apply_groups env r _ sc k v h

theorem extractSlots_deco_writes (env : TyEnv) (r : Ret) (slots : List RSlot) (sc : ScopeSt) :
    (∀ k v, aget (extractSlots env true r sc slots).decoratedValues k = some v →
      aget sc.decoratedValues k = some v ∨ ∃ slot decl, (false, k, slot, decl) ∈ slotDecoLeaves env slots ∧ v = r.val env slot decl) ∧
    (∀ k v, aget (extractSlots env true r sc slots).decoratedGroups k = some v →
      aget sc.decoratedGroups k = some v ∨ ∃ slot decl, (true, k, slot, decl) ∈ slotDecoLeaves env slots ∧ v = r.val env slot decl) ∧
    (extractSlots env true r sc slots).groups = sc.groups := by
  refine ⟨fun k v h => ?_, fun k v h => ?_, (extractSlots_deco_plain env r slots sc).2⟩
  · rw [extractSlots_eq_foldl] at h
    simp only [mem_slotDecoLeaves env]
    exact foldl_apply_from env r .dvalues _ sc k v h
  · rw [extractSlots_eq_foldl] at h
    simp only [mem_slotDecoLeaves env]
    exact foldl_apply_from env r .dgroups _ sc k v h

theorem extractSlots_decoCaches (env : TyEnv) (r : Ret) (slots : List RSlot) (sc : ScopeSt) :
    (extractSlots env false r sc slots).decoratedValues = sc.decoratedValues ∧
    (extractSlots env false r sc slots).decoratedGroups = sc.decoratedGroups := by
  apply extractSlots_inv env false r slots
    (fun sc' => sc'.decoratedValues = sc.decoratedValues ∧ sc'.decoratedGroups = sc.decoratedGroups) sc _ ⟨rfl, rfl⟩
  intro sc' w hw h
  have hd := writes_deco env false slots w hw
  cases w with
  | val => exact h
  | grp => exact h
  | dval => cases hd
  | dgrp => cases hd

theorem extractSlots_dv (env : TyEnv) (r : Ret) (slots : List RSlot) (sc : ScopeSt) :
    (∀ k, (aget sc.decoratedValues k).isSome = true → (aget (extractSlots env true r sc slots).decoratedValues k).isSome = true) ∧
    (∀ k slot decl, (false, k, slot, decl) ∈ slotDecoLeaves env slots →
      (aget (extractSlots env true r sc slots).decoratedValues k).isSome = true) := by
  rw [extractSlots_eq_foldl]
  exact ⟨fun k h => foldl_apply_keeps env r .dvalues _ sc k h,
    fun k slot decl h => foldl_apply_written env r .dvalues k slot decl _ sc ((mem_slotDecoLeaves env false k slot decl slots).mp h)⟩

def GJ (env : TyEnv) (st : St) (S : Nat) (k : Key) (v : Val) : Prop :=
  ∃ n slot decl fl, n < st.ctors.length ∧ (st.ctor n).s = S ∧ (st.ctor n).called = true ∧
    (k, slot, decl, fl) ∈ slotGroupLeaves (st.ctor n).results ∧
    ∃ ret : Ret, memberOf env ret slot decl fl v ∧
      (ret.dry = false → ret.f = (st.ctor n).fn.id ∧ Event.exit (.ctor n) ret.f ret.x .ok ∈ st.hist)

def DJ (env : TyEnv) (st : St) (grp : Bool) (S : Nat) (k : Key) (v : Val) : Prop :=
  ∃ d slot decl, d < st.decos.length ∧ (st.deco d).s = S ∧
    (grp, k, slot, decl) ∈ slotDecoLeaves env (st.deco d).results ∧
    ∃ ret : Ret, v = ret.val env slot decl ∧
      (ret.dry = false → ret.f = (st.deco d).fn.id ∧ Event.exit (.deco d) ret.f ret.x .ok ∈ st.hist)

structure Just2 (env : TyEnv) (st : St) : Prop where
  groups : ∀ S k v, v ∈ agetL (st.scope S).groups k → GJ env st S k v
  dvalues : ∀ S k v, aget (st.scope S).decoratedValues k = some v → DJ env st false S k v
  dgroups : ∀ S k v, aget (st.scope S).decoratedGroups k = some v → DJ env st true S k v

def DecosKeep (a b : St) : Prop :=
  ∀ d, d < a.decos.length → d < b.decos.length ∧ (b.deco d).fn = (a.deco d).fn ∧
    (b.deco d).results = (a.deco d).results ∧ (b.deco d).s = (a.deco d).s

theorem DecosKeep.refl (a : St) : DecosKeep a a := fun _ h => ⟨h, rfl, rfl, rfl⟩
theorem DecosKeep.trans {a b c : St} (h1 : DecosKeep a b) (h2 : DecosKeep b c) : DecosKeep a c := by
  intro d hd
  obtain ⟨a1, a2, a3, a4⟩ := h1 d hd
  obtain ⟨b1, b2, b3, b4⟩ := h2 d a1
  exact ⟨b1, b2.trans a2, b3.trans a3, b4.trans a4⟩

theorem GJ.transfer {env : TyEnv} {a b : St} {S : Nat} {k : Key} {v : Val} (h : GJ env a S k v)
    (hk : CtorsKeep a b) (hh : HistExt a b) : GJ env b S k v := by
  obtain ⟨n, slot, decl, fl, hn, hs, hc, hm, ret, hv, hr⟩ := h
  obtain ⟨k1, k2, k3, k4, k5⟩ := hk n hn
  obtain ⟨l, hl⟩ := hh
  refine ⟨n, slot, decl, fl, k1, by rw [k4]; exact hs, k5 hc, by rw [k3]; exact hm, ret, hv, ?_⟩
  intro hd
  obtain ⟨r1, r2⟩ := hr hd
  exact ⟨by rw [k2]; exact r1, by rw [hl]; exact List.mem_append_left _ r2⟩

theorem DJ.transfer {env : TyEnv} {a b : St} {g : Bool} {S : Nat} {k : Key} {v : Val} (h : DJ env a g S k v)
    (hk : DecosKeep a b) (hh : HistExt a b) : DJ env b g S k v := by
  obtain ⟨d, slot, decl, hn, hs, hm, ret, hv, hr⟩ := h
  obtain ⟨k1, k2, k3, k4⟩ := hk d hn
  obtain ⟨l, hl⟩ := hh
  refine ⟨d, slot, decl, k1, by rw [k4]; exact hs, by rw [k3]; exact hm, ret, hv, ?_⟩
  intro hd
  obtain ⟨r1, r2⟩ := hr hd
  exact ⟨by rw [k2]; exact r1, by rw [hl]; exact List.mem_append_left _ r2⟩

theorem Just2.transfer {env : TyEnv} {a b : St} (h : Just2 env a) (hk : CtorsKeep a b) (hd : DecosKeep a b)
    (hh : HistExt a b)
    (hs : ∀ j, (b.scope j).groups = (a.scope j).groups ∧ (b.scope j).decoratedValues = (a.scope j).decoratedValues ∧
      (b.scope j).decoratedGroups = (a.scope j).decoratedGroups) : Just2 env b where
  groups S k v hv := by rw [(hs S).1] at hv; exact (h.groups S k v hv).transfer hk hh
  dvalues S k v hv := by rw [(hs S).2.1] at hv; exact (h.dvalues S k v hv).transfer hd hh
  dgroups S k v hv := by rw [(hs S).2.2] at hv; exact (h.dgroups S k v hv).transfer hd hh

theorem Just2.init (env : TyEnv) : Just2 env ({} : St) where
  groups S k v hv := by cases S <;> simp [St.scope, agetL, aget] at hv
  dvalues S k v hv := by cases S <;> simp [St.scope, aget] at hv
  dgroups S k v hv := by cases S <;> simp [St.scope, aget] at hv

theorem decosKeep_of_regFrame {a b : St} (h : RegFrame a b) : DecosKeep a b := fun d hd =>
  have hs := h.decoStatic d
  ⟨h.decosLen ▸ hd, hs.fn.symm, hs.results.symm, hs.s.symm⟩

theorem decosKeep_of_decos_eq {a b : St} (h : b.decos = a.decos) : DecosKeep a b := by
  intro d hd
  have : b.deco d = a.deco d := by simp [St.deco, h]
  exact ⟨by rw [h]; exact hd, by rw [this], by rw [this], by rw [this]⟩

theorem decoTail_hist_body (ctx : Ctx) (d : Nat) (node : DecoNode) (args : List Val) (st : St) (e : Event)
    (h : e ∈ (callBody ctx (.deco d) node.fn args st).2.hist) : e ∈ (decoTail ctx d node args st).2.hist := by
  simp only [decoTail]
  obtain ⟨l, _, h2, _⟩ := runCallback_log node.cb (.deco d) node.fn.id st.clock
    (decoOutcome ctx node.fn.id (callBody ctx (.deco d) node.fn args st).1).2
    (decoCommit ctx d node (callBody ctx (.deco d) node.fn args st).1 (callBody ctx (.deco d) node.fn args st).2)
  rw [h2, (decoCommit_fields ctx d node _ _).2.1]
  exact List.mem_append_left _ h

theorem decoTail_commit (ctx : Ctx) (st : St) (d : Nat) (node : DecoNode) (args : List Val)
    (hst : DecoStatic node (st.deco d)) {ret : Ret}
    (hret : retOf node.fn.id (callBody ctx (.deco d) node.fn args st).1 = some ret) (hne : node.results ≠ []) :
    d < st.decos.length ∧
    (ret.dry = false → ret.f = node.fn.id ∧ Event.exit (.deco d) ret.f ret.x .ok ∈ (decoTail ctx d node args st).2.hist) := by
  refine ⟨Nat.lt_of_not_le fun h => hne (by rw [hst.results, deco_default st d h]; rfl), ?_⟩
  cases hb : (callBody ctx (.deco d) node.fn args st).1 with
  | ok x len =>
    rw [hb] at hret; cases hret
    exact fun _ => ⟨rfl, decoTail_hist_body ctx d node args st _ (callBody_ok_exit ctx (.deco d) node.fn args st x len hb)⟩
  | dry => rw [hb] at hret; cases hret; exact fun hd => nomatch hd
  | err x o => rw [hb] at hret; cases hret
  | panic x => rw [hb] at hret; cases hret

def JR2 (env : TyEnv) : St → St → Prop := InvRel (Just2 env)

theorem Just2.flags {env : TyEnv} {a b : St} (hf : FlagsOnly a b) (h : Just2 env a) : Just2 env b :=
  h.transfer (hf.invRel (Inv := fun _ => True) id).ctorsKeep (decosKeep_of_regFrame hf.reg) (HistExt.of_eq hf.hist)
    fun j => by rw [scope_of_scopes_eq hf.scopes j]; exact ⟨rfl, rfl, rfl⟩

theorem Just2.ctorTail {ctx : Ctx} {st : St} (hj : Just2 ctx.env st) (n : Nat) (node : CtorNode) (args : List Val)
    (hst : CtorStatic node (st.ctor n)) : Just2 ctx.env (Dig.ctorTail ctx n node args st).2 := by
  have hreg := regFrame_ctorTail ctx st n node args
  have hext := ctorTail_histExt ctx n node args st
  have hkeep := ctorsKeep_of_regFrame hreg (ctorTail_calledMono ctx n node args st)
  have hdkeep := decosKeep_of_regFrame hreg
  have hdc : ∀ S, ((Dig.ctorTail ctx n node args st).2.scope S).decoratedValues = (st.scope S).decoratedValues ∧
      ((Dig.ctorTail ctx n node args st).2.scope S).decoratedGroups = (st.scope S).decoratedGroups := fun S =>
    ctorTail_scope_cases ctx n node args st S
      (P := fun sc => sc.decoratedValues = (st.scope S).decoratedValues ∧ sc.decoratedGroups = (st.scope S).decoratedGroups)
      ⟨rfl, rfl⟩ fun ret _ _ _ => extractSlots_decoCaches ctx.env ret node.results _
  refine ⟨fun S k v => ?_, fun S k v hv => ?_, fun S k v hv => ?_⟩
  · refine ctorTail_scope_cases ctx n node args st S
      (P := fun sc => v ∈ agetL sc.groups k → GJ ctx.env (Dig.ctorTail ctx n node args st).2 S k v)
      (fun hv => (hj.groups S k v hv).transfer hkeep hext) fun ret hret hs _ hv => ?_
    rcases extractSlots_groups ctx.env ret node.results (st.scope S) k v hv with h1 | ⟨slot, decl, fl, hm, hval⟩
    · exact (hj.groups S k v h1).transfer hkeep hext
    · obtain ⟨hn, hc, hx⟩ := ctorTail_commit ctx st n node args hst hret (fun e => by rw [e] at hm; cases hm)
      have hr := hreg.ctorStatic n
      refine ⟨n, slot, decl, fl, hreg.ctorsLen ▸ hn, by rw [← hr.s, ← hst.s]; exact hs, hc,
        by rw [← hr.results, ← hst.results]; exact hm, ret, hval, ?_⟩
      rw [← hr.fn, ← hst.fn]
      exact hx
  · rw [(hdc S).1] at hv
    exact (hj.dvalues S k v hv).transfer hdkeep hext
  · rw [(hdc S).2] at hv
    exact (hj.dgroups S k v hv).transfer hdkeep hext

theorem Just2.decoTail {ctx : Ctx} {st : St} (hj : Just2 ctx.env st) (d : Nat) (node : DecoNode) (args : List Val)
    (hst : DecoStatic node (st.deco d)) : Just2 ctx.env (Dig.decoTail ctx d node args st).2 := by
  have hreg := regFrame_decoTail ctx st d node args
  have hext := decoTail_histExt ctx d node args st
  have hkeep := (invRel_decoTail (Inv := fun _ => True) ctx st d node args id).ctorsKeep
  have hdkeep := decosKeep_of_regFrame hreg
  have fresh : ∀ (g : Bool) (S : Nat) (k : Key) (v : Val) (ret : Ret) (slot decl : Nat),
      retOf node.fn.id (callBody ctx (.deco d) node.fn args st).1 = some ret → node.s = S →
      (g, k, slot, decl) ∈ slotDecoLeaves ctx.env node.results → v = ret.val ctx.env slot decl →
      DJ ctx.env (Dig.decoTail ctx d node args st).2 g S k v := by
    intro g S k v ret slot decl hret hs hm hval
    obtain ⟨hd, hx⟩ := decoTail_commit ctx st d node args hst hret (fun e => by rw [e] at hm; cases hm)
    have hr := hreg.decoStatic d
    refine ⟨d, slot, decl, hreg.decosLen ▸ hd, by rw [← hr.s, ← hst.s]; exact hs,
      by rw [← hr.results, ← hst.results]; exact hm, ret, hval, ?_⟩
    rw [← hr.fn, ← hst.fn]
    exact hx
  refine ⟨fun S k v => ?_, fun S k v => ?_, fun S k v => ?_⟩
  · refine decoTail_scope_cases ctx d node args st S
      (P := fun sc => v ∈ agetL sc.groups k → GJ ctx.env (Dig.decoTail ctx d node args st).2 S k v)
      (fun hv => (hj.groups S k v hv).transfer hkeep hext) fun ret _ _ _ hv => ?_
    rw [(extractSlots_deco_writes ctx.env ret node.results _).2.2] at hv
    exact (hj.groups S k v hv).transfer hkeep hext
  · refine decoTail_scope_cases ctx d node args st S
      (P := fun sc => aget sc.decoratedValues k = some v → DJ ctx.env (Dig.decoTail ctx d node args st).2 false S k v)
      (fun hv => (hj.dvalues S k v hv).transfer hdkeep hext) fun ret hret hs _ hv => ?_
    rcases (extractSlots_deco_writes ctx.env ret node.results _).1 k v hv with h1 | ⟨slot, decl, hm, hval⟩
    · exact (hj.dvalues S k v h1).transfer hdkeep hext
    · exact fresh false S k v ret slot decl hret hs hm hval
  · refine decoTail_scope_cases ctx d node args st S
      (P := fun sc => aget sc.decoratedGroups k = some v → DJ ctx.env (Dig.decoTail ctx d node args st).2 true S k v)
      (fun hv => (hj.dgroups S k v hv).transfer hdkeep hext) fun ret hret hs _ hv => ?_
    rcases (extractSlots_deco_writes ctx.env ret node.results _).2.1 k v hv with h1 | ⟨slot, decl, hm, hval⟩
    · exact (hj.dgroups S k v h1).transfer hdkeep hext
    · exact fresh true S k v ret slot decl hret hs hm hval

theorem jr2_leaf (ctx : Ctx) : LeafRel2 ctx (JR2 ctx.env) :=
  invRel_leaf ctx (fun _ _ hf h => h.flags hf) (fun _ n node args hst h => h.ctorTail n node args hst)
    fun _ d node args hst h => h.decoTail d node args hst

theorem Just2.buildList {ctx : Ctx} {st : St} (h : Just2 ctx.env st) (fuel : Nat) (ps : List Param) (c : Nat) :
    Just2 ctx.env (buildList ctx fuel ps c st).2 :=
  ((engine_pres2 ctx (jr2_leaf ctx) fuel).2.2.2.2.2 ps c st).inv h

end Dig
