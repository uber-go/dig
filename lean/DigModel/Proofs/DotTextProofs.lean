import DigModel.DotText
/-
  For every string: the escaped text has no raw angle bracket, every ampersand in it starts a character reference, it
  displays the string it was made from, and the DOT lexer reads the label as one HTML string that ends exactly where
  the label ends.
-/
namespace Dig.DotText

theorem escChar_cases {motive : Char → List Char → Prop} (amp : motive '&' "&amp;".toList)
    (apos : motive '\'' "&#39;".toList) (lt : motive '<' "&lt;".toList) (gt : motive '>' "&gt;".toList)
    (quot : motive '"' "&#34;".toList) (other : ∀ c, c ≠ '&' → c ≠ '<' → c ≠ '>' → motive c [c]) (c : Char) :
    motive c (escChar c) := by
  unfold escChar
  split
  case h_6 h1 _ h3 h4 _ => exact other c h1 h3 h4
  all_goals assumption

theorem escChar_noAngle (c : Char) : '<' ∉ escChar c ∧ '>' ∉ escChar c :=
  escChar_cases (motive := fun _ e => '<' ∉ e ∧ '>' ∉ e) (by decide) (by decide) (by decide) (by decide) (by decide)
    (fun _ _ h3 h4 => ⟨fun h => h3 (List.mem_singleton.mp h).symm, fun h => h4 (List.mem_singleton.mp h).symm⟩) c

theorem esc_noAngle (s : List Char) : '<' ∉ esc s ∧ '>' ∉ esc s :=
  ⟨fun h => let ⟨c, _, hc⟩ := List.mem_flatMap.mp h; (escChar_noAngle c).1 hc,
   fun h => let ⟨c, _, hc⟩ := List.mem_flatMap.mp h; (escChar_noAngle c).2 hc⟩

theorem esc_cons (c : Char) (s : List Char) : esc (c :: s) = escChar c ++ esc s := List.flatMap_cons

theorem unesc_cons_ne (c : Char) (rest : List Char) (h : c ≠ '&') : unesc (c :: rest) = c :: unesc rest := by
  rw [unesc]
  all_goals exact fun _ e _ => h e

theorem refsOK_cons_ne (c : Char) (rest : List Char) (h : c ≠ '&') : refsOK (c :: rest) = refsOK rest := by
  rw [refsOK]
  case x_6 => exact h
  all_goals exact fun _ e _ => h e

theorem unesc_esc (s : List Char) : unesc (esc s) = s := by
  induction s with
  | nil => rfl
  | cons c s ih =>
    rw [esc_cons]
    exact escChar_cases (motive := fun c e => unesc (e ++ esc s) = c :: s) (congrArg _ ih) (congrArg _ ih) (congrArg _ ih)
      (congrArg _ ih) (congrArg _ ih) (fun c h _ _ => (unesc_cons_ne c _ h).trans (congrArg _ ih)) c

theorem refsOK_esc (s : List Char) : refsOK (esc s) = true := by
  induction s with
  | nil => rfl
  | cons c s ih =>
    rw [esc_cons]
    exact escChar_cases (motive := fun _ e => refsOK (e ++ esc s) = true) ih ih ih ih ih
      (fun c h _ _ => (refsOK_cons_ne c _ h).trans ih) c

theorem scan_cons (d : Nat) (acc : List Char) (c : Char) (rest : List Char) :
    scan d acc (c :: rest) =
      if c = '<' then scan (d + 1) (acc ++ [c]) rest
      else if c = '>' then
        (match d with
         | 0 => none
         | 1 => some (acc, rest)
         | d + 2 => scan (d + 1) (acc ++ [c]) rest)
      else scan d (acc ++ [c]) rest := by
  conv => lhs; unfold scan
  rfl

theorem scan_plain : ∀ (seg : List Char), '<' ∉ seg → '>' ∉ seg → ∀ (d : Nat) (acc rest : List Char),
    scan d acc (seg ++ rest) = scan d (acc ++ seg) rest := by
  intro seg
  induction seg with
  | nil => intro _ _ d acc rest; simp
  | cons c seg ih =>
    intro h1 h2 d acc rest
    have hc1 : c ≠ '<' := fun e => h1 (by simp [e])
    have hc2 : c ≠ '>' := fun e => h2 (by simp [e])
    show scan d acc (c :: (seg ++ rest)) = _
    rw [scan_cons]
    simp only [hc1, hc2, if_false]
    rw [ih (fun h => h1 (by simp [h])) (fun h => h2 (by simp [h]))]
    simp [List.append_assoc]

theorem scan_tag (inner : List Char) (h1 : '<' ∉ inner) (h2 : '>' ∉ inner) (d : Nat) (acc rest : List Char) :
    scan (d + 1) acc ('<' :: inner ++ '>' :: rest) = scan (d + 1) (acc ++ '<' :: inner ++ ['>']) rest := by
  show scan (d + 1) acc ('<' :: (inner ++ '>' :: rest)) = _
  rw [scan_cons]
  simp only [if_true]
  rw [scan_plain inner h1 h2]
  rw [scan_cons]
  have : ('>' : Char) ≠ '<' := by decide
  simp only [this, if_false, if_true]
  simp [List.append_assoc]

theorem scan_close (acc rest : List Char) : scan 1 acc ('>' :: rest) = some (acc, rest) := by
  rw [scan_cons]
  have : ('>' : Char) ≠ '<' := by decide
  simp only [this, if_false, if_true]

def Piece (p : List Char) : Prop := ∀ d acc rest, scan (d + 1) acc (p ++ rest) = scan (d + 1) (acc ++ p) rest

theorem Piece.append {a b : List Char} (ha : Piece a) (hb : Piece b) : Piece (a ++ b) := fun d acc rest => by
  rw [List.append_assoc, ha, hb, List.append_assoc]

theorem Piece.plain {seg : List Char} (h : '<' ∉ seg ∧ '>' ∉ seg) : Piece seg :=
  fun d acc rest => scan_plain seg h.1 h.2 (d + 1) acc rest

theorem Piece.tag {inner : List Char} (h1 : '<' ∉ inner) (h2 : '>' ∉ inner) : Piece ('<' :: inner ++ ['>']) :=
  fun d acc rest => by
    simpa only [List.append_assoc, List.cons_append, List.nil_append] using scan_tag inner h1 h2 d acc rest

/- The two constants are read off tag by tag: `String.toList_ofList` turns the literal into its characters without
   running the UTF-8 decoder, which is what makes evaluating `"…".toList` dear. -/
theorem piece_fontOpen : Piece fontOpen := by
  have e : fontOpen = ('<' :: ['B', 'R', ' ', '/'] ++ ['>']) ++
      ('<' :: ['F', 'O', 'N', 'T', ' ', 'P', 'O', 'I', 'N', 'T', '-', 'S', 'I', 'Z', 'E', '=', '"', '1', '0', '"'] ++ ['>']) :=
    String.toList_ofList
  rw [e]
  exact (Piece.tag (by decide) (by decide)).append (Piece.tag (by decide) (by decide))

theorem piece_fontClose : Piece fontClose := by
  have e : fontClose = '<' :: ['/', 'F', 'O', 'N', 'T'] ++ ['>'] := String.toList_ofList
  rw [e]
  exact Piece.tag (by decide) (by decide)

theorem piece_labelBody (t : List Char) : ∀ (second : Option (List Char × List Char)),
    (∀ p ∈ second, '<' ∉ p.1 ∧ '>' ∉ p.1) → Piece (labelBody t second)
  | none, _ => .plain (esc_noAngle t)
  | some (pfx, x), hp =>
    ((((Piece.plain (esc_noAngle t)).append piece_fontOpen).append (.plain (hp (pfx, x) rfl))).append
      (.plain (esc_noAngle x))).append piece_fontClose

/-- `hp`: the prefix written by dig itself (`Name: `, `Group: `) has no angle bracket -/
theorem scan_labelBody (t : List Char) (second : Option (List Char × List Char))
    (hp : ∀ p ∈ second, '<' ∉ p.1 ∧ '>' ∉ p.1) (rest : List Char) :
    scan 1 [] (labelBody t second ++ '>' :: rest) = some (labelBody t second, rest) := by
  rw [piece_labelBody t second hp 0, scan_close]
  rfl

end Dig.DotText
