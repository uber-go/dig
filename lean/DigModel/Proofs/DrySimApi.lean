import DigModel.Proofs.DrySim
import DigModel.Proofs.Termination
import DigModel.Proofs.InvokeShape
import DigModel.Proofs.ProvideRel
import DigModel.Proofs.DecorateShape
/-
  Registrations and `Scope` read and write only the core of a container; `Invoke` runs the resolver.
  Hence a DryRun history and the same history on a normal container whose functions all succeed give
  the same verdicts, operation by operation.
-/
namespace Dig

theorem CoreEq.graphSame {a b : St} (h : CoreEq a b) : GraphSame a b :=
  ⟨h.ctors, h.pgs, h.len, fun j => ⟨(h.scope j).parent, (h.scope j).providers, (h.scope j).gh⟩⟩

theorem CoreEq.subscopes {a b : St} (h : CoreEq a b) (s : Nat) : a.subscopes s = b.subscopes s :=
  subscopes_congr h.len (fun j => (h.scope j).children) s

theorem CoreEq.trans {a b c : St} (h1 : CoreEq a b) (h2 : CoreEq b c) : CoreEq a c :=
  ⟨h1.ctors.trans h2.ctors, h1.decos.trans h2.decos, h1.pgs.trans h2.pgs, h1.len.trans h2.len, fun j =>
    (blankEq_iff _ _).mp (((blankEq_iff _ _).mpr (h1.scope j)).trans ((blankEq_iff _ _).mpr (h2.scope j)))⟩

theorem CoreEq.symm {a b : St} (h : CoreEq a b) : CoreEq b a :=
  ⟨h.ctors.symm, h.decos.symm, h.pgs.symm, h.len.symm, fun j =>
    (blankEq_iff _ _).mp ((blankEq_iff _ _).mpr (h.scope j)).symm⟩

theorem CoreEq.modScopeSame {a b : St} (h : CoreEq a b) (s : Nat) (f : ScopeSt → ScopeSt)
    (hf : ∀ x y, BlankEq x y → BlankEq (f x) (f y)) : CoreEq (a.modScope s f) (b.modScope s f) :=
  h.modScope s f f hf

theorem CoreEq.withPgs {a b : St} (h : CoreEq a b) (f : List PGNode → List PGNode) :
    CoreEq { a with pgs := f a.pgs } { b with pgs := f b.pgs } :=
  ⟨h.ctors, h.decos, by simp [h.pgs], h.len, h.scope⟩

theorem CoreEq.withCtors {a b : St} (h : CoreEq a b) (f : List CtorNode → List CtorNode) :
    CoreEq { a with ctors := f a.ctors } { b with ctors := f b.ctors } :=
  ⟨by simp [h.ctors], h.decos, h.pgs, h.len, h.scope⟩

theorem CoreEq.withDecos {a b : St} (h : CoreEq a b) (f : List DecoNode → List DecoNode) :
    CoreEq { a with decos := f a.decos } { b with decos := f b.decos } :=
  ⟨h.ctors, by simp [h.decos], h.pgs, h.len, h.scope⟩

theorem CoreEq.resetLog {a b : St} (h : CoreEq a b) : CoreEq { a with log := [] } { b with log := [] } :=
  ⟨h.ctors, h.decos, h.pgs, h.len, h.scope⟩

theorem coreEq_ghStep {a b : St} (h : CoreEq a b) (node : GNode) (sc : Nat) : CoreEq (ghStep node a sc) (ghStep node b sc) := by
  unfold ghStep
  simp only
  rw [(h.scope sc).gh]
  have h1 : CoreEq (a.modScope sc fun x => { x with gh := x.gh ++ [node] }) (b.modScope sc fun x => { x with gh := x.gh ++ [node] }) :=
    h.modScopeSame sc _ (fun x y hxy => { hxy with gh := by simp [hxy.gh] })
  cases node with
  | ctor n => exact h1.modCtor n _
  | pg i => exact h1.withPgs _

theorem coreEq_newGraphNode {a b : St} (h : CoreEq a b) (s : Nat) (node : GNode) :
    CoreEq (a.newGraphNode s node) (b.newGraphNode s node) := by
  rw [newGraphNode_eq, newGraphNode_eq, h.subscopes s]
  generalize b.subscopes s = l
  induction l generalizing a b with
  | nil => exact h
  | cons x xs ih => simp only [List.foldl_cons]; exact ih (coreEq_ghStep h node x)

theorem coreEq_addPGNodes {a b : St} (h : CoreEq a b) (s oldLen : Nat) (descs : List PGDesc) :
    CoreEq (addPGNodes a s oldLen descs) (addPGNodes b s oldLen descs) := by
  unfold addPGNodes
  simp only
  have h0 : CoreEq { a with pgs := a.pgs ++ (descs.drop oldLen).map fun d => ({ desc := d } : PGNode) }
      { b with pgs := b.pgs ++ (descs.drop oldLen).map fun d => ({ desc := d } : PGNode) } :=
    h.withPgs (fun l => l ++ (descs.drop oldLen).map fun d => ({ desc := d } : PGNode))
  generalize (List.range (descs.length - oldLen)) = l
  generalize ({ a with pgs := a.pgs ++ (descs.drop oldLen).map fun d => ({ desc := d } : PGNode) } : St) = a1 at h0
  generalize ({ b with pgs := b.pgs ++ (descs.drop oldLen).map fun d => ({ desc := d } : PGNode) } : St) = b1 at h0
  induction l generalizing a1 b1 with
  | nil => exact h0
  | cons x xs ih => simp only [List.foldl_cons]; exact ih _ _ (coreEq_newGraphNode h0 s _)

theorem coreEq_parseParams {a b : St} (h : CoreEq a b) (env : TyEnv) (s : Nat) (fn : Fn) :
    (parseParams env a s fn).1 = (parseParams env b s fn).1 ∧
    CoreEq (parseParams env a s fn).2 (parseParams env b s fn).2 := by
  unfold parseParams
  rw [h.pgs]
  exact ⟨rfl, coreEq_addPGNodes h s _ _⟩

theorem coreEq_rollback {a b wa wb : St} (h0 : CoreEq a b) (h : CoreEq wa wb) (target : Nat) (l : List Nat) :
    CoreEq (rollbackProvide a wa target l) (rollbackProvide b wb target l) := by
  unfold rollbackProvide
  simp only
  have h1 : ∀ (l : List Nat) (wa wb : St), CoreEq wa wb → CoreEq
      (l.foldl (fun w sc => w.modScope sc fun x => { x with gh := x.gh.take (a.scope sc).gh.length }) wa)
      (l.foldl (fun w sc => w.modScope sc fun x => { x with gh := x.gh.take (b.scope sc).gh.length }) wb) := by
    intro l
    induction l with
    | nil => intro wa wb h; exact h
    | cons sc rest ih =>
      intro wa wb h
      simp only [List.foldl_cons]
      apply ih
      rw [(h0.scope sc).gh]
      exact h.modScopeSame sc _ (fun x y hxy => { hxy with gh := by simp [hxy.gh] })
  have h2 := h1 l wa wb h
  have h3 := h2.modScope target (fun x => { x with providers := (a.scope target).providers })
    (fun x => { x with providers := (b.scope target).providers })
    (fun x y hxy => { hxy with providers := (h0.scope target).providers })
  exact ⟨by simp [h3.ctors, h0.ctors], h3.decos, by simp [h3.pgs, h0.pgs], h3.len, h3.scope⟩

theorem coreEq_verifyRel : VerifyRel CoreEq where
  graph h := h.graphSame
  subscopes h := h.subscopes
  flag h sc _ := h.modScopeSame sc _ fun _ _ hxy => { hxy with verified := rfl }
  nodes h sc _ := h.modScopeSame sc _ fun _ _ hxy => { hxy with nodes := by rw [hxy.nodes] }
  rollback h hw t l := coreEq_rollback h hw t l

theorem chk_congr (x y : ScopeSt) (h : x.providers = y.providers) :
    ∀ ks seen, visitKeys.chk x ks seen = visitKeys.chk y ks seen := by
  intro ks
  induction ks with
  | nil => intro seen; simp [visitKeys.chk]
  | cons k more ih => intro seen; simp only [visitKeys.chk, h, ih]

theorem visitKeys_congr (x y : ScopeSt) (h : x.providers = y.providers) :
    ∀ rs seen, visitKeys x rs seen = visitKeys y rs seen := by
  apply visitKeys.induct x (fun rs seen => visitKeys x rs seen = visitKeys y rs seen)
  · intro seen; simp only [visitKeys]
  · intro slot decl ty name as rest seen ks e hc
    simp only [visitKeys]
    rw [← chk_congr x y h]
    simp only [ks] at hc
    rw [hc]
  · intro slot decl ty name as rest seen ks seen' hc ih
    simp only [visitKeys]
    rw [← chk_congr x y h]
    simp only [ks] at hc
    rw [hc]
    exact ih
  · intro slot decl ty group flatten as rest seen ks ih
    simp only [visitKeys]
    exact ih
  · intro ty fs rest seen e he ih
    simp only [visitKeys]
    rw [← ih, he]
  · intro ty fs rest seen seen' hs ih1 ih2
    simp only [visitKeys]
    rw [← ih1, hs]
    exact ih2

def RegSame (r1 r2 : St × RegRes) : Prop := CoreEq r1.1 r2.1 ∧ r1.2 = r2.2

theorem coreEq_provideRegister {ctx₁ ctx₂ : Ctx} (henv : ctx₁.env = ctx₂.env) (fn : Fn) {a b : St} (h : CoreEq a b)
    (i s : Nat) (o : ProvideOpts) :
    RegStage CoreEq (provideRegister ctx₁ fn a i s o) (provideRegister ctx₂ fn b i s o) := by
  unfold provideRegister
  rw [henv]
  cases fn.nonfunc with
  | some _ => exact ⟨h, rfl⟩
  | none =>
    simp only
    cases validateOpts ctx₂.env o with
    | error e' => exact ⟨h, rfl⟩
    | ok as =>
      simp only
      generalize (if o.export_ then St.root else s) = target
      obtain ⟨hp1, hp2⟩ := coreEq_parseParams h ctx₂.env target fn
      rw [h.subscopes target]
      cases hpa : parseParams ctx₂.env a target fn with
      | mk ra wa =>
        cases hpb : parseParams ctx₂.env b target fn with
        | mk rb wb =>
          rw [hpa, hpb] at hp1 hp2
          simp only at hp1 hp2
          subst hp1
          cases ra with
          | error e1 => exact ⟨coreEq_rollback h hp2 _ _, rfl⟩
          | ok params =>
            simp only
            cases newResultList ctx₂.env { name := o.name, group := o.group, as := as } fn with
            | error e2 => exact ⟨coreEq_rollback h hp2 _ _, rfl⟩
            | ok results =>
              simp only
              rw [show wa.ctors.length = wb.ctors.length from congrArg List.length hp2.ctors]
              have h3 := coreEq_newGraphNode (hp2.withCtors (· ++ [({ fn := fn, params := params, results := results, s := target, origS := s, cb := if o.cb then some i else none } : CtorNode)])) target (.ctor wb.ctors.length)
              generalize St.newGraphNode { wa with ctors := wa.ctors ++ [_] } target (.ctor wb.ctors.length) = a3 at h3 ⊢
              generalize St.newGraphNode { wb with ctors := wb.ctors ++ [_] } target (.ctor wb.ctors.length) = b3 at h3 ⊢
              rw [visitKeys_congr (a3.scope target) (b3.scope target) (h3.scope target).providers]
              cases visitKeys (b3.scope target) (slotResults results) [] with
              | error e3 => exact ⟨coreEq_rollback h h3 _ _, rfl⟩
              | ok keys =>
                cases keys with
                | nil => exact ⟨coreEq_rollback h h3 _ _, rfl⟩
                | cons k0 ks =>
                  exact ⟨rfl, rfl, rfl, rfl, h3.modScopeSame target _ fun _ _ hxy =>
                    { hxy with providers := by rw [hxy.providers] }⟩

theorem coreEq_apiProvide (ctx : Ctx) (fn : Fn) {a b : St} (h : CoreEq a b) (i s : Nat) (o : ProvideOpts) :
    RegSame (apiProvide (dryOf ctx) fn a i s o) (apiProvide ctx fn b i s o) :=
  apiProvide_rel coreEq_verifyRel (ctx₁ := dryOf ctx) (ctx₂ := ctx) rfl fn i s o h (coreEq_provideRegister rfl fn h i s o)

theorem coreEq_apiDecorate (ctx : Ctx) (fn : Fn) {a b : St} (h : CoreEq a b) (i s : Nat) (cb info : Bool) :
    RegSame (apiDecorate (dryOf ctx) fn a i s cb info) (apiDecorate ctx fn b i s cb info) := by
  -- of the context, `apiDecorate` reads `env` only
  show RegSame (apiDecorate ctx fn a i s cb info) _
  cases hnf : fn.nonfunc with
  | some v => rw [apiDecorate_nonfunc ctx fn a i s cb info hnf, apiDecorate_nonfunc ctx fn b i s cb info hnf]; exact ⟨h, rfl⟩
  | none =>
    obtain ⟨hp1, hp2⟩ := coreEq_parseParams h ctx.env s fn
    cases hpa : parseParams ctx.env a s fn with
    | mk ra wa =>
      cases hpb : parseParams ctx.env b s fn with
      | mk rb wb =>
        rw [hpa, hpb] at hp1 hp2
        simp only at hp1 hp2
        subst hp1
        rw [apiDecorate_eq ctx fn a i s cb info hnf ra wa hpa, apiDecorate_eq ctx fn b i s cb info hnf ra wb hpb,
          (hp2.scope s).decorators, show wa.decos.length = wb.decos.length from congrArg List.length hp2.decos]
        cases decoDecide ctx fn i s cb info ra (wb.scope s).decorators with
        | error e => exact ⟨h, rfl⟩
        | ok x =>
          exact ⟨(hp2.withDecos (· ++ [x.1])).modScopeSame s _ fun _ _ hxy =>
            { hxy with decorators := by rw [hxy.decorators] }, rfl⟩

theorem coreEq_copyOrder {a b : St} (h : CoreEq a b) (child parent : Nat) (g : GNode) :
    CoreEq (copyOrder child parent a g) (copyOrder child parent b g) := by
  cases g with
  | ctor n => exact h.modCtor n _
  | pg i => exact h.withPgs _

theorem coreEq_fold_copyOrder (child parent : Nat) : ∀ (l : List GNode) (a2 b2 : St), CoreEq a2 b2 →
    CoreEq (l.foldl (copyOrder child parent) a2) (l.foldl (copyOrder child parent) b2) := by
  intro l
  induction l with
  | nil => intro a2 b2 h2; exact h2
  | cons g gs ih => intro a2 b2 h2; simp only [List.foldl_cons]; exact ih _ _ (coreEq_copyOrder h2 _ _ g)

theorem coreEq_apiScope {a b : St} (h : CoreEq a b) (parent : Nat) : CoreEq (apiScope a parent) (apiScope b parent) := by
  unfold apiScope
  simp only
  rw [(h.scope parent).gh, h.len]
  have h1 : CoreEq { a with scopes := a.scopes ++ [({ parent := some parent, gh := (b.scope parent).gh } : ScopeSt)] }
      { b with scopes := b.scopes ++ [({ parent := some parent, gh := (b.scope parent).gh } : ScopeSt)] } := by
    refine ⟨h.ctors, h.decos, h.pgs, by simp [h.len], fun j => ?_⟩
    show BlankEq ((a.scopes ++ [_]).getD j { parent := none }) ((b.scopes ++ [_]).getD j { parent := none })
    rw [getD_snoc, getD_snoc, h.len]
    split
    · exact h.scope j
    · split
      · exact BlankEq.refl _
      · exact BlankEq.refl _
  have h2 := h1.modScopeSame parent (fun x => { x with children := x.children ++ [b.scopes.length] })
    (fun x y hxy => { hxy with children := by simp [hxy.children] })
  exact coreEq_fold_copyOrder _ _ _ _ _ h2

/-- verdicts agree: the same verdict, except that nothing is said about the events -/
def SameVerdict (r1 r2 : St × OpRes) : Prop := CoreEq r1.1 r2.1 ∧ r1.2.v = r2.2.v ∧ r1.2.info = r2.2.info

theorem engineFuel_core {a b : St} (h : CoreEq a b) (ps : List Param) : engineFuel a ps = engineFuel b ps := by
  unfold engineFuel maxDepth
  rw [h.ctors, h.decos]

theorem coreEq_invokeCheck {a b : St} (h : CoreEq a b) (s : Nat) :
    (∃ x y, invokeCheck a s = .ok x ∧ invokeCheck b s = .ok y ∧ CoreEq x y) ∨
    (∃ v, invokeCheck a s = .error v ∧ invokeCheck b s = .error v) := by
  unfold invokeCheck
  rw [(h.scope s).verified, h.graphSame.checkAcyclic s]
  cases (b.scope s).verified with
  | true => exact .inl ⟨a, b, rfl, rfl, h⟩
  | false =>
    cases Dig.checkAcyclic b s with
    | acyclic => exact .inl ⟨_, _, rfl, rfl, h.modScopeSame s _ fun _ _ hxy => { hxy with verified := rfl }⟩
    | cycle p => exact .inr ⟨_, rfl, by unfold cyclePath; rw [(h.scope s).gh]; rfl⟩
    | outOfRange => exact .inr ⟨_, rfl, rfl⟩
    | fuel => exact .inr ⟨_, rfl, rfl⟩

theorem coreEq_invokeRun (ctx : Ctx) (hnd : ctx.cfg.dry = false) (hok : AllOk ctx) (fn : Fn) (params : List Param) (s : Nat)
    (info : Bool) {x y : St} (hrel : CoreEq x y) :
    SameVerdict (invokeRun (dryOf ctx) fn params s info x) (invokeRun ctx fn params s info y) := by
  unfold invokeRun
  rw [engineFuel_core hrel params]
  have hb := simR_wrapErr DErr.argsFailed ((engine_drysim ctx hnd hok (engineFuel y params)).2.2.2.2.2 params s x y hrel)
  cases hba : EM.wrapErr (buildList (dryOf ctx) (engineFuel y params) params s) DErr.argsFailed x with
  | mk r4a w4a =>
    cases hbb : EM.wrapErr (buildList ctx (engineFuel y params) params s) DErr.argsFailed y with
    | mk r4b w4b =>
      rw [hba, hbb] at hb
      obtain ⟨hc4, ho4⟩ := hb
      simp only at hc4 ho4
      rcases r4a with f | args <;> rcases r4b with f' | args'
      · cases (ho4 : f = f'); exact ⟨hc4, rfl, rfl⟩
      · exact ho4.elim
      · exact ho4.elim
      · obtain ⟨x0, len0, hbr⟩ := bodyRes_allOk ctx hok fn w4b
        simp only
        rw [callBody_dry (dryOf ctx) rfl, callBody_spec ctx hnd, hbr]
        obtain ⟨f1, f2, f3, f4⟩ := afterBody_fields ctx .invoked fn args' w4b
        exact ⟨hc4.right f2 f3 f4 f1, rfl, rfl⟩

theorem coreEq_apiInvoke (ctx : Ctx) (hnd : ctx.cfg.dry = false) (hok : AllOk ctx) (fn : Fn) {a b : St} (h : CoreEq a b)
    (s : Nat) (info : Bool) : SameVerdict (apiInvoke (dryOf ctx) fn a s info) (apiInvoke ctx fn b s info) := by
  rw [apiInvoke_eq, apiInvoke_eq]
  unfold apiInvoke'
  cases fn.nonfunc with
  | some _ => exact ⟨h, rfl, rfl⟩
  | none =>
    simp only [dryOf_env]
    obtain ⟨hp1, hp2⟩ := coreEq_parseParams h ctx.env s fn
    rw [h.subscopes s]
    cases hpa : parseParams ctx.env a s fn with
    | mk ra wa =>
      cases hpb : parseParams ctx.env b s fn with
      | mk rb wb =>
        rw [hpa, hpb] at hp1 hp2
        simp only at hp1 hp2
        subst hp1
        cases ra with
        | error e1 => exact ⟨coreEq_rollback h hp2 _ _, rfl, rfl⟩
        | ok params =>
          simp only
          unfold shallowCheck
          rw [coreEq_reads.missingOfList hp2 s params]
          cases missingOfList wb s params with
          | cons k ks => exact ⟨hp2, rfl, rfl⟩
          | nil =>
            simp only
            rcases coreEq_invokeCheck hp2 s with ⟨x, y, hx, hy, hxy⟩ | ⟨v, hx, hy⟩
            · rw [hx, hy]; exact coreEq_invokeRun ctx hnd hok fn params s info hxy
            · rw [hx, hy]; exact ⟨hp2, rfl, rfl⟩

theorem step_rel {ctx₁ ctx₂ : Ctx} (fns : List Fn) {a b : St} (hlen : a.scopes.length = b.scopes.length) (i : Nat) (op : Op)
    {P : St × OpRes → St × OpRes → Prop}
    (hscope : ∀ p, p < b.scopes.length →
      P (apiScope { a with log := [] } p, { v := .ok }) (apiScope { b with log := [] } p, { v := .ok }))
    (hprovide : ∀ s o fn, s < b.scopes.length →
      P ((apiProvide ctx₁ fn { a with log := [] } i s o).1, (apiProvide ctx₁ fn { a with log := [] } i s o).2.toOpRes)
        ((apiProvide ctx₂ fn { b with log := [] } i s o).1, (apiProvide ctx₂ fn { b with log := [] } i s o).2.toOpRes))
    (hdecorate : ∀ s cb info fn, s < b.scopes.length →
      P ((apiDecorate ctx₁ fn { a with log := [] } i s cb info).1, (apiDecorate ctx₁ fn { a with log := [] } i s cb info).2.toOpRes)
        ((apiDecorate ctx₂ fn { b with log := [] } i s cb info).1, (apiDecorate ctx₂ fn { b with log := [] } i s cb info).2.toOpRes))
    (hinvoke : ∀ s info fn, s < b.scopes.length →
      P (apiInvoke ctx₁ fn { a with log := [] } s info) (apiInvoke ctx₂ fn { b with log := [] } s info))
    (hidle : ∀ v, P ({ a with log := [] }, { v := v }) ({ b with log := [] }, { v := v })) :
    P (step ctx₁ fns a i op) (step ctx₂ fns b i op) := by
  cases op with
  | scope p =>
    simp only [step, hlen]
    split
    · exact hscope p ‹_›
    · exact hidle _
  | provide s f o =>
    simp only [step, hlen]
    split
    · split
      · exact hprovide s o _ ‹_›
      · exact hidle _
    · exact hidle _
  | decorate s f cb info =>
    simp only [step, hlen]
    split
    · split
      · exact hdecorate s cb info _ ‹_›
      · exact hidle _
    · exact hidle _
  | invoke s f info =>
    simp only [step, hlen]
    split
    · split
      · exact hinvoke s info _ ‹_›
      · exact hidle _
    · exact hidle _
  | visualize s e => cases e <;> (simp only [step]; split <;> exact hidle _)
  | string s => simp only [step, hlen]; split <;> exact hidle _

theorem coreEq_step (ctx : Ctx) (hnd : ctx.cfg.dry = false) (hok : AllOk ctx) (fns : List Fn) {a b : St} (h : CoreEq a b)
    (i : Nat) (op : Op) : SameVerdict (Dig.step (dryOf ctx) fns a i op) (Dig.step ctx fns b i op) := by
  have h0 := h.resetLog
  have hreg : ∀ {x y : St × RegRes}, RegSame x y → SameVerdict (x.1, x.2.toOpRes) (y.1, y.2.toOpRes) :=
    fun hxy => ⟨hxy.1, by simp only [RegRes.toOpRes, hxy.2], by simp only [RegRes.toOpRes, hxy.2]⟩
  exact step_rel fns h.len i op (P := SameVerdict) (fun p _ => ⟨coreEq_apiScope h0 p, rfl, rfl⟩)
    (fun s o fn _ => hreg (coreEq_apiProvide ctx fn h0 i s o))
    (fun s cb info fn _ => hreg (coreEq_apiDecorate ctx fn h0 i s cb info))
    (fun s info fn _ => coreEq_apiInvoke ctx hnd hok fn h0 s info) fun _ => ⟨h0, rfl, rfl⟩

def SameVerdicts : List OpRes → List OpRes → Prop
  | [], [] => True
  | r :: rs, r' :: rs' => r.v = r'.v ∧ r.info = r'.info ∧ SameVerdicts rs rs'
  | _, _ => False

theorem sameVerdicts_reverse_cons : ∀ (acc acc' : List OpRes) (r r' : OpRes), SameVerdicts acc.reverse acc'.reverse →
    r.v = r'.v → r.info = r'.info → SameVerdicts (r :: acc).reverse (r' :: acc').reverse := by
  intro acc acc' r r' h hv hi
  simp only [List.reverse_cons]
  generalize acc.reverse = l at h
  generalize acc'.reverse = l' at h
  induction l generalizing l' with
  | nil =>
    cases l' with
    | nil => exact ⟨hv, hi, trivial⟩
    | cons x xs => exact absurd h (by simp [SameVerdicts])
  | cons y ys ih =>
    cases l' with
    | nil => exact absurd h (by simp [SameVerdicts])
    | cons x xs =>
      obtain ⟨h1, h2, h3⟩ := h
      exact ⟨h1, h2, ih xs h3⟩

theorem coreEq_runOps (ctx : Ctx) (hnd : ctx.cfg.dry = false) (hok : AllOk ctx) (fns : List Fn) :
    ∀ (ops : List Op) (i : Nat) (a b : St) (acc acc' : List OpRes), CoreEq a b → SameVerdicts acc.reverse acc'.reverse →
      SameVerdicts (Dig.runOps (dryOf ctx) fns ops i a acc).2 (Dig.runOps ctx fns ops i b acc').2 := by
  intro ops
  induction ops with
  | nil => intro i a b acc acc' _ hacc; exact hacc
  | cons op rest ih =>
    intro i a b acc acc' h hacc
    simp only [Dig.runOps]
    obtain ⟨c1, c2, c3⟩ := coreEq_step ctx hnd hok fns h i op
    cases hsa : Dig.step (dryOf ctx) fns a i op with
    | mk a' ra =>
      cases hsb : Dig.step ctx fns b i op with
      | mk b' rb =>
        rw [hsa, hsb] at c1 c2 c3
        exact ih _ _ _ _ _ c1 (sameVerdicts_reverse_cons acc acc' ra rb hacc c2 c3)

theorem dryRun_same_verdicts (p : Program) (hnd : p.cfg.dry = false) (hok : AllOk p.ctx) :
    SameVerdicts (runProgram { p with cfg := { p.cfg with dry := true } }).2 (runProgram p).2 := by
  have : ({ p with cfg := { p.cfg with dry := true } } : Program).ctx = dryOf p.ctx := rfl
  unfold runProgram
  rw [this]
  exact coreEq_runOps p.ctx hnd hok p.fns p.ops 0 {} {} [] [] (CoreEq.refl _) trivial

end Dig
