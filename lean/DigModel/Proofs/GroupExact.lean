import DigModel.Proofs.Just2Api
import DigModel.Proofs.History
import DigModel.Proofs.NoBugApi
/-
  Value-group stores, exactly: in a container without DryRun the members stored for a group key in a scope are,
  in order, the grouped results of the successful executions — as recorded in the history — of the constructors whose
  home is that scope.  Nothing is lost, nothing is duplicated, nothing else gets in (`GX`, an invariant of every
  operation of every program).
-/
namespace Dig

def leafVals (env : TyEnv) (r : Ret) (l : Key × Nat × Nat × Bool) : List Val :=
  if l.2.2.2 then elemsOf (r.val env l.2.1 l.2.2.1) else [r.val env l.2.1 l.2.2.1]

def leavesContrib (env : TyEnv) (r : Ret) (ls : List (Key × Nat × Nat × Bool)) (k : Key) : List Val :=
  (ls.filter fun l => decide (l.1 = k)).flatMap (leafVals env r)

theorem leavesContrib_nil (env : TyEnv) (r : Ret) (k : Key) : leavesContrib env r [] k = [] := rfl

def contrib (env : TyEnv) (r : Ret) (slots : List RSlot) (k : Key) : List Val :=
  leavesContrib env r (slotGroupLeaves slots) k

theorem agetL_submitAll (m : List (Key × List Val)) (k' k : Key) (vs : List Val) :
    agetL (submitAll m k' vs) k = if k = k' then agetL m k ++ vs else agetL m k := by
  unfold submitAll agetL
  rw [aget_aset]
  split
  · rename_i h; subst h; rfl
  · rfl

theorem leavesContrib_cons (env : TyEnv) (r : Ret) (l : Key × Nat × Nat × Bool) (ls : List (Key × Nat × Nat × Bool)) (k : Key) :
    leavesContrib env r (l :: ls) k = (if l.1 = k then leafVals env r l else []) ++ leavesContrib env r ls k := by
  by_cases h : l.1 = k <;> simp [leavesContrib, h]

theorem foldl_apply_groups_exact (env : TyEnv) (r : Ret) : ∀ (ws : List CW) (sc : ScopeSt) (k : Key),
    agetL (ws.foldl (CW.apply env r) sc).groups k =
      agetL sc.groups k ++ leavesContrib env r (ws.filterMap CW.grpLeaf) k := by
  intro ws
  induction ws with
  | nil => intro sc k; exact (List.append_nil _).symm
  | cons w ws ih =>
    intro sc k
    rw [List.foldl_cons, ih]
    cases w with
    | grp k' slot decl fl =>
      rw [List.filterMap_cons_some (rfl : CW.grpLeaf (.grp k' slot decl fl) = some (k', slot, decl, fl)), leavesContrib_cons,
        ← List.append_assoc]
      congr 1
      refine (agetL_submitAll sc.groups k' k _).trans ?_
      by_cases h : k = k'
      · cases h; rw [if_pos rfl, if_pos rfl]; rfl
      · rw [if_neg h, if_neg (fun e => h e.symm), List.append_nil]
    | val => rfl
    | dval => rfl
    | dgrp => rfl

theorem extractSlots_groups_exact (env : TyEnv) (r : Ret) (slots : List RSlot) (sc : ScopeSt) (k : Key) :
    agetL (extractSlots env false r sc slots).groups k = agetL sc.groups k ++ contrib env r slots k := by
  rw [extractSlots_eq_foldl, contrib, slotGroupLeaves_writes env]
  exact foldl_apply_groups_exact env r _ sc k

/-! ### the history's account of a group store -/

/-- what a constructor execution `(f, x)` returned, as `ctorCommit` sees it -/
def retOfExec (ctx : Ctx) (f x : Nat) : Ret := { dry := false, f := f, x := x, len := (ctx.beh f x).len }

def evContrib (ctx : Ctx) (st : St) (S : Nat) (k : Key) : Event → List Val
  | .exit (.ctor n) f x .ok =>
    if (st.ctor n).s = S then contrib ctx.env (retOfExec ctx f x) (st.ctor n).results k else []
  | _ => []

def histGroup (ctx : Ctx) (st : St) (S : Nat) (k : Key) : List Val := st.hist.flatMap (evContrib ctx st S k)

def GX (ctx : Ctx) (st : St) : Prop := ∀ S k, agetL (st.scope S).groups k = histGroup ctx st S k

theorem GX.init (ctx : Ctx) : GX ctx ({} : St) := by
  intro S k
  cases S <;> simp [St.scope, agetL, aget, histGroup]

theorem evContrib_congr (ctx : Ctx) {a b : St} (S : Nat) (k : Key) (e : Event)
    (h : ∀ n f x, e = .exit (.ctor n) f x .ok → (b.ctor n).s = (a.ctor n).s ∧ (b.ctor n).results = (a.ctor n).results) :
    evContrib ctx b S k e = evContrib ctx a S k e := by
  cases e with
  | enter w f x args => rfl
  | cb op w fn err rt => rfl
  | exit w f x r =>
    cases w with
    | invoked => rfl
    | deco d => rfl
    | ctor n =>
      cases r with
      | ok =>
        obtain ⟨h1, h2⟩ := h n f x rfl
        simp only [evContrib, h1, h2]
      | err => rfl
      | panic => rfl

theorem histGroup_congr (ctx : Ctx) {a b : St} (S : Nat) (k : Key) (hh : b.hist = a.hist)
    (h : ∀ n f x, Event.exit (.ctor n) f x .ok ∈ a.hist → (b.ctor n).s = (a.ctor n).s ∧ (b.ctor n).results = (a.ctor n).results) :
    histGroup ctx b S k = histGroup ctx a S k := by
  unfold histGroup
  rw [hh]
  exact flatMap_congr' _ _ _ (fun e he => evContrib_congr ctx S k e (fun n f x heq => h n f x (heq ▸ he)))

theorem GX.transfer {ctx : Ctx} {a b : St} (h : GX ctx a) (hh : b.hist = a.hist)
    (hs : ∀ j, (b.scope j).groups = (a.scope j).groups)
    (hk : ∀ n f x, Event.exit (.ctor n) f x .ok ∈ a.hist → (b.ctor n).s = (a.ctor n).s ∧ (b.ctor n).results = (a.ctor n).results) :
    GX ctx b := by
  intro S k
  rw [hs S, histGroup_congr ctx S k hh hk]
  exact h S k

/-- executed constructors exist (`HInv.freshC`), so whatever keeps the existing constructors keeps the account -/
theorem GX.keep {ctx : Ctx} {a b : St} (h : GX ctx a) (hi : HInv a) (hh : b.hist = a.hist)
    (hs : ∀ j, (b.scope j).groups = (a.scope j).groups) (hk : CtorsKeep a b) : GX ctx b := by
  refine h.transfer hh hs (fun n f x hm => ?_)
  have hn : n < a.ctors.length := by
    by_cases hlt : n < a.ctors.length
    · exact hlt
    · have := hi.freshC n (by omega)
      have hp := okExits_pos_of_mem _ _ _ _ hm
      omega
  obtain ⟨_, _, k3, k4, _⟩ := hk n hn
  exact ⟨k4, k3⟩

theorem histGroup_append (ctx : Ctx) (a b : St) (S : Nat) (k : Key) (l : List Event) (hh : b.hist = a.hist ++ l)
    (hk : ∀ n, (b.ctor n).s = (a.ctor n).s ∧ (b.ctor n).results = (a.ctor n).results) :
    histGroup ctx b S k = histGroup ctx a S k ++ l.flatMap (evContrib ctx b S k) := by
  unfold histGroup
  rw [hh, List.flatMap_append]
  congr 1
  exact flatMap_congr' _ _ _ (fun e _ => evContrib_congr ctx S k e (fun n _ _ _ => hk n))

theorem GX.ctorTail {ctx : Ctx} (hnd : ctx.cfg.dry = false) {st : St} (hhome : HomeOK st) (hg : GX ctx st) (n : Nat)
    (node : CtorNode) (args : List Val) (hst : CtorStatic node (st.ctor n)) : GX ctx (Dig.ctorTail ctx n node args st).2 := by
  have hreg := regFrame_ctorTail ctx st n node args
  intro S k
  obtain ⟨lb, lc, hh, _, hlb, hlc⟩ := ctorTail_log ctx n node args st
  have hlb' : lb = bodyEvents ctx (.ctor n) node.fn args st := by
    rcases hlb with ⟨hd, _⟩ | ⟨_, h⟩
    · rw [hnd] at hd; cases hd
    · exact h
  have hk : ∀ m, ((Dig.ctorTail ctx n node args st).2.ctor m).s = (st.ctor m).s ∧
      ((Dig.ctorTail ctx n node args st).2.ctor m).results = (st.ctor m).results :=
    fun m => ⟨(hreg.ctorStatic m).s.symm, (hreg.ctorStatic m).results.symm⟩
  rw [histGroup_append ctx st _ S k _ hh hk, ← hg S k]
  obtain ⟨s1, s2, s3, s4, _, _, _⟩ := hst
  have hlc0 : lc.flatMap (evContrib ctx (Dig.ctorTail ctx n node args st).2 S k) = [] := by
    rcases hlc with h | ⟨op, err, rt, h⟩ <;> (rw [h]; rfl)
  rw [List.flatMap_append, hlc0, List.append_nil, hlb']
  rw [ctorTail_scope, callBody_spec ctx hnd]
  simp only [bodyEvents, List.flatMap_cons, List.flatMap_nil, List.append_nil]
  have hev0 : evContrib ctx (Dig.ctorTail ctx n node args st).2 S k (.enter (.ctor n) node.fn.id (st.execCount node.fn.id) args) = [] := rfl
  rw [hev0, List.nil_append]
  simp only [bodyRes, exitKind]
  have hok : ∀ len, len = (ctx.beh node.fn.id (st.execCount node.fn.id)).len →
      agetL (match retOf node.fn.id (BodyRes.ok (st.execCount node.fn.id) len) with
        | some ret => if node.s = S ∧ S < st.scopes.length then extractSlots ctx.env false ret (st.scope S) node.results else st.scope S
        | none => st.scope S).groups k =
      agetL (st.scope S).groups k ++
        evContrib ctx (Dig.ctorTail ctx n node args st).2 S k (.exit (.ctor n) node.fn.id (st.execCount node.fn.id) .ok) := by
    intro len hlen
    simp only [retOf, evContrib, (hk n).1, (hk n).2, ← s3, ← s4]
    by_cases hn : n < st.ctors.length
    · by_cases hS : node.s = S
      · have hlt : S < st.scopes.length := by rw [← hS, s4]; exact hhome.ctor n hn
        simp only [hS, hlt, and_self, if_true]
        rw [extractSlots_groups_exact]
        simp [retOfExec, hlen]
      · simp [hS]
    · have hdef := ctor_default st n (Nat.le_of_not_lt hn)
      have hres : node.results = [] := by rw [s3, hdef]; rfl
      simp only [hres, extractSlots, contrib, slotGroupLeaves, leavesContrib_nil]
      split <;> simp
  cases hbk : (ctx.beh node.fn.id (st.execCount node.fn.id)).k with
  | ok => simp only; exact hok _ rfl
  | panic => simp [retOf, evContrib]
  | err =>
    simp only
    by_cases he : (errOuts ctx.env node.fn).isEmpty = true
    · simp only [he, if_true]; exact hok _ rfl
    · simp [he, retOf, evContrib]

theorem GX.decoTail {ctx : Ctx} {st : St} (hg : GX ctx st) (d : Nat) (node : DecoNode) (args : List Val) :
    GX ctx (Dig.decoTail ctx d node args st).2 := by
  have hreg := regFrame_decoTail ctx st d node args
  intro S k
  obtain ⟨lb, lc, hh, _, hlb, hlc⟩ := decoTail_log ctx d node args st
  have hk : ∀ m, ((Dig.decoTail ctx d node args st).2.ctor m).s = (st.ctor m).s ∧
      ((Dig.decoTail ctx d node args st).2.ctor m).results = (st.ctor m).results :=
    fun m => ⟨(hreg.ctorStatic m).s.symm, (hreg.ctorStatic m).results.symm⟩
  rw [histGroup_append ctx st _ S k _ hh hk, ← hg S k]
  have hlc0 : lc.flatMap (evContrib ctx (Dig.decoTail ctx d node args st).2 S k) = [] := by
    rcases hlc with h | ⟨op, err, rt, h⟩ <;> (rw [h]; rfl)
  have hlb0 : lb.flatMap (evContrib ctx (Dig.decoTail ctx d node args st).2 S k) = [] := by
    rcases hlb with ⟨_, h⟩ | ⟨_, h⟩
    · rw [h]; rfl
    · rw [h]; rfl
  rw [List.flatMap_append, hlc0, hlb0, List.append_nil, List.append_nil]
  exact decoTail_scope_cases ctx d node args st S (P := fun sc => agetL sc.groups k = agetL (st.scope S).groups k) rfl
    fun ret _ _ _ => by rw [(extractSlots_deco_writes ctx.env ret node.results _).2.2]

def GR (ctx : Ctx) : St → St → Prop := InvRel fun st => HomeOK st ∧ GX ctx st

theorem gr_leaf (ctx : Ctx) (hnd : ctx.cfg.dry = false) : LeafRel2 ctx (GR ctx) :=
  invRel_leaf ctx
    (fun a b hf h => ⟨h.1.of_regFrame hf.reg, h.2.transfer hf.hist (fun j => by rw [scope_of_scopes_eq hf.scopes j])
      fun n _ _ _ => ⟨(hf.reg.ctorStatic n).s.symm, (hf.reg.ctorStatic n).results.symm⟩⟩)
    (fun st n node args hst h => ⟨h.1.of_regFrame (regFrame_ctorTail ctx st n node args), h.2.ctorTail hnd h.1 n node args hst⟩)
    fun st d node args _ h => ⟨h.1.of_regFrame (regFrame_decoTail ctx st d node args), h.2.decoTail d node args⟩

theorem GX.buildList {ctx : Ctx} (hnd : ctx.cfg.dry = false) {st : St} (h : GX ctx st) (hh : HomeOK st)
    (fuel : Nat) (ps : List Param) (c : Nat) : GX ctx (buildList ctx fuel ps c st).2 :=
  (((engine_pres2 ctx (gr_leaf ctx hnd) fuel).2.2.2.2.2 ps c st).inv ⟨hh, h⟩).2

theorem GX.cacheSame {ctx : Ctx} {a b : St} (h : GX ctx a) (hi : HInv a) (hc : CacheSame a b) (hk : CtorsKeep a b) : GX ctx b :=
  h.keep hi hc.hist hc.groups hk

theorem GX.callInvoked {ctx : Ctx} (hnd : ctx.cfg.dry = false) {st : St} (h : GX ctx st) (fn : Fn) (args : List Val) :
    GX ctx (callBody ctx .invoked fn args st).2 := by
  intro S k
  rw [callBody_spec ctx hnd]
  have hk : ∀ m, ((afterBody ctx .invoked fn args st).ctor m).s = (st.ctor m).s ∧
      ((afterBody ctx .invoked fn args st).ctor m).results = (st.ctor m).results := by
    intro m
    have : (afterBody ctx .invoked fn args st).ctors = st.ctors := by
      simp only [afterBody]; exact (bumpExec_fields st fn.id).2.1
    simp only [St.ctor, this]; exact ⟨trivial, trivial⟩
  have hh : (afterBody ctx .invoked fn args st).hist = st.hist ++ bodyEvents ctx .invoked fn args st := rfl
  rw [histGroup_append ctx st _ S k _ hh hk, ← h S k]
  have hs : (afterBody ctx .invoked fn args st).scopes = st.scopes := by
    simp only [afterBody]; exact (bumpExec_fields st fn.id).1
  rw [scope_of_scopes_eq hs S]
  simp [bodyEvents, evContrib]

theorem GX.resetLog {ctx : Ctx} {st : St} (h : GX ctx st) : GX ctx { st with log := [] } := h

theorem GX.invoke {ctx : Ctx} (hnd : ctx.cfg.dry = false) {st : St} (h : GX ctx st) (hn : NBInv ctx.env st) (fn : Fn) (s : Nat)
    (info : Bool) : GX ctx (apiInvoke ctx fn st s info).1 := by
  have hg := ghOnly_parseParams ctx.env st s fn
  -- together with `HomeOK`, which the resolver needs and which only looks at the tables
  refine (apiInvoke_inv (I := fun w => GX ctx w ∧ HomeOK w) ⟨h, hn.home⟩
    ⟨h.cacheSame hn.h (cacheSame_ghOnly hg) (ctorsKeep_of_ctors_eq hg.ctors.symm),
      hn.home.same hg.ctors.symm hg.decos.symm (Nat.le_of_eq hg.scopesLen)⟩
    (fun w hw _ => ⟨hw.1.transfer rfl (fun j => by rw [scope_modScope]; split <;> rfl) fun _ _ _ _ => ⟨rfl, rfl⟩,
      hw.2.same rfl rfl (by simp [St.modScope])⟩)
    (fun params w hw => ⟨hw.1.buildList hnd hw.2 _ params s, hw.2.of_regFrame (buildList_regFrame ctx _ params s w)⟩)
    fun _ _ args w4 _ _ h4 => ⟨h4.1.callInvoked hnd fn args, h4.2.of_regFrame (regFrame_callBody ctx .invoked fn args w4)⟩).1

theorem GX.provide {ctx : Ctx} {st : St} (h : GX ctx st) (hi : HInv st) (fn : Fn) (i s : Nat) (o : ProvideOpts) :
    GX ctx (apiProvide ctx fn st i s o).1 :=
  h.cacheSame hi (cacheSame_apiProvide ctx fn st i s o) (ctorsKeep_apiProvide ctx fn st i s o)

/-- `GX` needs `NBInv` of the container it starts from -/
theorem GX.stepInv {ctx : Ctx} (hnd : ctx.cfg.dry = false) (fns : List Fn) :
    StepInv ctx fns fun st => GX ctx st ∧ NBInv ctx.env st where
  reset _ h := ⟨h.1, h.2.resetLog⟩
  scope st p h _ _ := ⟨h.1.cacheSame h.2.h (cacheSame_apiScope st p) (ctorsKeep_apiScope st p), h.2.scope p⟩
  provide _ i s _ fn o h _ _ hs := ⟨h.1.provide h.2.h fn i s o, NBInv.provide ctx h.2 fn i s o hs⟩
  decorate st i s _ fn cb info h _ _ hs :=
    ⟨h.1.cacheSame h.2.h (cacheSame_apiDecorate ctx fn st i s cb info)
      (ctorsKeep_of_ctors_eq (apiDecorate_ctors ctx fn st i s cb info)), NBInv.decorate ctx h.2 fn i s cb info hs⟩
  invoke _ s _ fn info h _ _ _ := ⟨h.1.invoke hnd h.2 fn s info, NBInv.invoke ctx h.2 fn s info⟩

/-- **every group store of every reachable container (without DryRun) is exactly what the history says**: in order,
    the declared grouped results of the successful executions of the constructors living in that scope -/
theorem gx_program (p : Program) (hnd : p.cfg.dry = false) : GX p.ctx (runProgram p).1 :=
  (runOps_inv (GX.stepInv (ctx := p.ctx) hnd p.fns) p.ops 0 {} [] ⟨GX.init p.ctx, NBInv.init _⟩).1

theorem GX.buildGroup {ctx : Ctx} (hnd : ctx.cfg.dry = false) {st : St} (h : GX ctx st) (hh : HomeOK st)
    (fuel : Nat) (k : Key) (soft : Bool) (c : Nat) : GX ctx (buildGroup ctx fuel k soft c st).2 :=
  (((engine_pres2 ctx (gr_leaf ctx hnd) fuel).2.2.2.1 k soft c st).inv ⟨hh, h⟩).2

theorem GX.buildParam {ctx : Ctx} (hnd : ctx.cfg.dry = false) {st : St} (h : GX ctx st) (hh : HomeOK st)
    (fuel : Nat) (p : Param) (c : Nat) : GX ctx (buildParam ctx fuel p c st).2 :=
  (((engine_pres2 ctx (gr_leaf ctx hnd) fuel).2.2.2.2.1 p c st).inv ⟨hh, h⟩).2

end Dig
