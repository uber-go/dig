import DigModel.Proofs.AcycSem
import DigModel.Proofs.ProvideStages
/-
  Without DeferAcyclicVerification every scope's graph is acyclic at every point of every history.
-/
namespace Dig

/-- `b` is `a` with some fresh value-group nodes appended to graph holders (what a parse does) -/
structure Grow (a b : St) : Prop where
  len : b.scopes.length = a.scopes.length
  prov : ∀ s k, b.allProviders s k = a.allProviders s k
  clen : b.ctors.length = a.ctors.length
  params : ∀ n, (b.ctor n).params = (a.ctor n).params
  descs : ∃ x, descsOf b = descsOf a ++ x
  sub : ∀ s x, x ∈ (a.scope s).gh → x ∈ (b.scope s).gh
  back : ∀ s x, x ∈ (b.scope s).gh → x ∈ (a.scope s).gh ∨ ∃ i, x = GNode.pg i ∧ a.pgs.length ≤ i

theorem Grow.pgKey {a b : St} (h : Grow a b) (i : Nat) (hi : i < a.pgs.length) : pgKey b i = pgKey a i := by
  obtain ⟨x, hx⟩ := h.descs
  have h1 : (descsOf b)[i]? = (descsOf a)[i]? := by
    rw [hx, List.getElem?_append_left (by simpa [descsOf] using hi)]
  unfold descsOf at h1
  simp only [List.getElem?_map] at h1
  have hb : i < b.pgs.length := by
    have : (descsOf b).length = (descsOf a).length + x.length := by rw [hx]; simp
    simp [descsOf] at this; omega
  unfold Dig.pgKey
  simp only [List.getD_eq_getElem?_getD, List.getElem?_eq_getElem hi, List.getElem?_eq_getElem hb, Option.getD_some]
  rw [List.getElem?_eq_getElem hi, List.getElem?_eq_getElem hb] at h1
  simp only [Option.map_some, Option.some.injEq] at h1
  rw [h1]

/-- growing holders by fresh group nodes creates no dependency cycle -/
theorem NoCycle.grow {a b : St} (hg : Grow a b) (hga : GM0 a) (hpa : PG a) (s : Nat) (h : NoCycle a s) : NoCycle b s := by
  intro ⟨x0, l, hl, hin, hc, hclosed⟩
  apply h
  -- constructor nodes of the chain are old nodes
  have hctor : ∀ n, GNode.ctor n ∈ x0 :: l → GNode.ctor n ∈ (a.scope s).gh := by
    intro n hn
    rcases hg.back s _ (hin _ hn) with h1 | ⟨i, h1, _⟩
    · exact h1
    · cases h1
  have hold : ∀ x ∈ x0 :: l, x ∈ (a.scope s).gh := by
    intro x hx
    cases x with
    | ctor n => exact hctor n hx
    | pg i =>
      obtain ⟨n, hy, hi⟩ := closed_chain_group hl hc hclosed hx
      -- a group parameter of an old constructor is an old group node
      have hnv := hga.bnd s _ (hctor n hy)
      simp only [NodeValid] at hnv
      rw [hg.params n] at hi
      have hlt := (pgOKL_mem 0 (descsOf a) _ (hpa.link n hnv) i hi).2
      rcases hg.back s _ (hin _ hx) with h1 | ⟨j, h1, h2⟩
      · exact h1
      · injection h1 with h1; subst h1
        simp [descsOf] at hlt; omega
  -- dependencies among old nodes are the old dependencies
  have hdep : ∀ x y, x ∈ (a.scope s).gh → NodeDep b s x y → NodeDep a s x y := by
    intro x y hx hd
    cases hd with
    | single hk hm => rw [hg.params] at hk; rw [hg.prov] at hm; exact NodeDep.single hk hm
    | toGroup hi => rw [hg.params] at hi; exact NodeDep.toGroup hi
    | @fromGroup i m hm =>
      have hiv := hga.bnd s _ hx
      simp only [NodeValid] at hiv
      rw [hg.prov, hg.pgKey i hiv] at hm
      exact NodeDep.fromGroup hm
  have hchain : ∀ (l : List GNode), (∀ x ∈ l, x ∈ (a.scope s).gh) → NodeChain b s l → NodeChain a s l := by
    intro l
    induction l with
    | nil => intro _ _; trivial
    | cons c rest ih =>
      intro hin hc
      cases rest with
      | nil => trivial
      | cons d rest' =>
        obtain ⟨hd, hc'⟩ := hc
        exact ⟨hdep c d (hin c (by simp)) hd, ih (fun x hx => hin x (by simp [hx])) hc'⟩
  exact ⟨x0, l, hl, hold, hchain _ hold hc, hclosed⟩

theorem newGraphNode_allProviders (w : St) (s : Nat) (node : GNode) (t : Nat) (k : Key) :
    (w.newGraphNode s node).allProviders t k = w.allProviders t k := by
  obtain ⟨a1, a2, _, _⟩ := newGraphNode_facts w s node
  exact allProviders_congr a1 (fun j => ⟨(a2 j).1, (a2 j).2.2⟩) t k

theorem Grow.refl (a : St) : Grow a a :=
  ⟨rfl, fun _ _ => rfl, rfl, fun _ => rfl, ⟨[], by simp⟩, fun _ _ h => h, fun _ _ h => Or.inl h⟩

theorem grow_addPGNodes (w : St) (s : Nat) (descs : List PGDesc) : Grow w (addPGNodes w s w.pgs.length descs) := by
  refine addPGNodes_inv (I := fun _ v => Grow w v) w s descs
    ⟨rfl, fun _ _ => rfl, rfl, fun _ => rfl, ⟨descs.drop w.pgs.length, by simp [descsOf, List.map_append, Function.comp_def]⟩,
      fun _ _ h => h, fun _ _ h => Or.inl h⟩ ?_
  intro x v h _
  obtain ⟨g1, g2, g3, _⟩ := newGraphNode_facts v s (.pg (w.pgs.length + x))
  have ga := newGraphNode_ghAdd v s (.pg (w.pgs.length + x))
  refine ⟨g1.trans h.len, fun t k => (newGraphNode_allProviders v s _ t k).trans (h.prov t k),
    ga.ctorsLen.trans h.clen, fun n => (ga.params n).trans (h.params n),
    by rw [ga.descsOf]; exact h.descs, fun t y hy => g3 t y (h.sub t y hy), fun t y hy => ?_⟩
  rcases ga.back t y hy with h1 | h1
  · exact h.back t y h1
  · exact Or.inr ⟨w.pgs.length + x, h1, by omega⟩

theorem grow_parseParams (env : TyEnv) (st : St) (s : Nat) (fn : Fn) : Grow st (Dig.parseParams env st s fn).2 := by
  unfold Dig.parseParams
  simp only
  have : (st.pgs.map (·.desc)).length = st.pgs.length := by simp
  rw [this]
  exact grow_addPGNodes st s _

/-- **a parse keeps every scope's graph acyclic** -/
theorem acyclic_parseParams {st : St} (hg : GT st) (hp : PG st) (ho : OB st) (env : TyEnv) (sc : Nat) (fn : Fn) (s : Nat)
    (h : checkAcyclic st s = .acyclic) :
    checkAcyclic (Dig.parseParams env st sc fn).2 s = .acyclic := by
  have hgr := grow_parseParams env st sc fn
  have hg' := hg.parseParams env sc fn
  have hp' := (parseParams_pg hp env sc fn).1
  have ho' := ho.parseParams env sc fn
  rw [acyclic_iff_noCycle hg'.gm hp' ho' s]
  exact NoCycle.grow hgr hg.gm hp s ((acyclic_iff_noCycle hg.gm hp ho s).mp h)

theorem localSame_regFrame {a b : St} (hf : RegFrame a b) (s : Nat) : LocalSame a s b s where
  gh := (hf.scopeReg s).gh.symm
  params n _ := (hf.ctorStatic n).params.symm
  desc i _ := by rw [hf.pgs]
  prov k := (allProviders_congr hf.scopesLen (fun j => ⟨(hf.scopeReg j).parent, (hf.scopeReg j).providers⟩) s k).symm
  ordC k m _ := by rw [(hf.ctorStatic m).orders]
  ordP n _ i _ := by rw [hf.pgs]

theorem pg_of_take {st w : St} (h : w.pgs.take st.pgs.length = st.pgs) (i : Nat) (hi : i < st.pgs.length) :
    w.pgs.getD i default = st.pgs.getD i default := by
  rw [← getD_of_take w.pgs st.pgs.length i default hi, h]

/-- a scope outside the subtree a Provide works on keeps its graph -/
theorem localSame_work {st w : St} {target : Nat} (hw : Work st w target) (hg : GT st) (hp : PG st) (s : Nat)
    (hs : s < st.scopes.length) (hout : s ∉ st.subscopes target) : LocalSame st s w s := by
  have hanc : w.ancestors s = st.ancestors s := by
    unfold St.ancestors
    rw [hw.len]
    exact ancestorsAux_congr _ _ hw.len hw.parent _ _
  have hnt : ∀ a ∈ st.ancestors s, a ≠ target := by
    intro a ha e
    subst e
    exact hout (mem_subscopes_of_mem_ancestors hg.tree ha)
  have hprov : ∀ k, w.allProviders s k = st.allProviders s k := by
    intro k
    unfold St.allProviders
    rw [hanc]
    exact flatMap_congr' _ _ _ (fun a ha => by rw [hw.providersOff (hnt a ha)])
  have hctor : ∀ n, GNode.ctor n ∈ (st.scope s).gh → w.ctor n = st.ctor n := by
    intro n hn
    have hv := hg.gm.bnd s _ hn
    simp only [NodeValid] at hv
    exact ctor_of_take hw.ctorsPre n hv
  refine ⟨hw.ghOut hout, fun n hn => by rw [hctor n hn], ?_, hprov, ?_, ?_⟩
  · intro i hi
    have hv := hg.gm.bnd s _ hi
    simp only [NodeValid] at hv
    rw [pg_of_take hw.pgsPre i hv]
  · intro k m hm
    rw [hctor m (hg.gm.prov s k m hs hm)]
  · intro n hn i hi
    have hnv := hg.gm.bnd s _ hn
    simp only [NodeValid] at hnv
    have hlt := (pgOKL_mem 0 (descsOf st) _ (hp.link n hnv) i hi).2
    rw [pg_of_take hw.pgsPre i (by simpa [descsOf] using hlt)]

/-- after `Scope.Scope(name)`: the child shows its parent's graph, every other scope its own -/
theorem localSame_scope {st : St} (hg : GT st) (hp : PG st) (parent : Nat) (hpl : parent < st.scopes.length) (s : Nat)
    (hs : s < st.scopes.length + 1) :
    LocalSame st (if s = st.scopes.length then parent else s) (apiScope st parent) s := by
  have ho := (apiScope_shape st parent).1
  have hgh : ((apiScope st parent).scope s).gh = (st.scope (if s = st.scopes.length then parent else s)).gh := by
    rw [apiScope_gh]; split <;> rfl
  have hprov : ∀ k, (apiScope st parent).allProviders s k = st.allProviders (if s = st.scopes.length then parent else s) k := by
    intro k
    obtain ⟨hold, hchild⟩ := apiScope_allProviders hg.tree parent hpl k
    by_cases h1 : s = st.scopes.length
    · rw [if_pos h1, h1]; exact hchild
    · rw [if_neg h1]; exact hold s (by omega)
  have hsv : (if s = st.scopes.length then parent else s) < st.scopes.length := by
    split
    · exact hpl
    · omega
  have hord : ∀ x, x ∈ (st.scope (if s = st.scopes.length then parent else s)).gh →
      nodeOrder (apiScope st parent) x s = nodeOrder st x (if s = st.scopes.length then parent else s) := by
    intro x hx
    rw [nodeOrder_apiScope st parent hpl]
    by_cases h1 : s = st.scopes.length
    · rw [if_pos h1] at hx ⊢
      rw [if_pos ⟨h1, hx, hg.gm.bnd parent x hx⟩]
    · rw [if_neg h1, if_neg (fun hh => h1 hh.1)]
  refine ⟨hgh, fun n _ => ho.params n, fun i _ => ho.desc i, hprov, ?_, ?_⟩
  · intro k m hm
    exact hord (.ctor m) (hg.gm.prov _ k m hsv hm)
  · intro n hn i hi
    exact hord (.pg i) (hp.pgIn _ n i hn hi)

/-- every scope whose `isVerifiedAcyclic` flag satisfies `g` has an acyclic graph -/
def AC (g : Bool → Prop) (st : St) : Prop :=
  ∀ s, s < st.scopes.length → g (st.scope s).verified → checkAcyclic st s = .acyclic

section
variable {g : Bool → Prop}

/-- graphs as before, and no scope newly selected -/
theorem AC.graphSame {a b : St} (h : AC g a) (hg : GraphSame a b)
    (hf : ∀ s, g (b.scope s).verified → g (a.scope s).verified) : AC g b := by
  intro s hs hv
  rw [← hg.checkAcyclic s]
  exact h s (by rw [hg.scopesLen]; exact hs) (hf s hv)

theorem AC.resetLog {st : St} (h : AC g st) : AC g { st with log := [] } :=
  h.graphSame ⟨rfl, rfl, rfl, fun _ => ⟨rfl, rfl, rfl⟩⟩ fun _ hv => hv

theorem AC.regFrame {a b : St} (h : AC g a) (hf : RegFrame a b) : AC g b := by
  intro s hs hv
  rw [(localSame_regFrame hf s).checkAcyclic]
  exact h s (by rw [hf.scopesLen]; exact hs) (by rw [(hf.scopeReg s).verified]; exact hv)

theorem AC.parseParams {st : St} (h : AC g st) (hg : GT st) (hp : PG st) (ho : OB st) (env : TyEnv) (sc : Nat) (fn : Fn) :
    AC g (Dig.parseParams env st sc fn).2 := by
  intro s hs hv
  have hs' : s < st.scopes.length := by rw [← (grow_parseParams env st sc fn).len]; exact hs
  rw [← ((ghOnly_parseParams env st sc fn).scope s).verified] at hv
  exact acyclic_parseParams hg hp ho env sc fn s (h s hs' hv)

/-- the child starts unflagged and shows its parent's graph -/
theorem AC.scope {st : St} (h : AC g st) (hg : GT st) (hp : PG st) (parent : Nat) (hpl : parent < st.scopes.length)
    (hnew : g false → g (st.scope parent).verified) : AC g (apiScope st parent) := by
  intro s hs hv
  rw [(apiScope_scope st parent hpl).1] at hs
  rw [(localSame_scope hg hp parent hpl s hs).checkAcyclic]
  rw [apiScope_scope_keep (·.verified) st parent (fun _ _ => rfl) rfl s] at hv
  split
  · rename_i h1
    rw [h1, scope_ge_len st _ (Nat.le_refl _)] at hv
    exact h parent hpl (hnew hv)
  · exact h s (by omega) hv

theorem AC.decorate {st : St} (h : AC g st) (hg : GT st) (hp : PG st) (ho : OB st) (ctx : Ctx) (fn : Fn) (i s : Nat)
    (cb info : Bool) : AC g (apiDecorate ctx fn st i s cb info).1 :=
  apiDecorate_inv h (h.parseParams hg hp ho ctx.env s fn) fun w d _ hw =>
    (hw.graphSame (b := { w with decos := w.decos ++ [d] }) ⟨rfl, rfl, rfl, fun _ => ⟨rfl, rfl, rfl⟩⟩ fun _ hv => hv).graphSame
      (graphSame_modScope _ s _ fun _ => ⟨rfl, rfl, rfl⟩)
      fun j hv => by
        rw [scope_modScope_keep (·.verified)] at hv
        · exact hv
        · exact fun _ => rfl

/-- a scope whose graph has just been found acyclic may be flagged -/
theorem AC.flag {w : St} (h : AC g w) {s : Nat} (hca : checkAcyclic w s = .acyclic) :
    AC g (w.modScope s fun x => { x with verified := true }) := by
  intro j hj hv
  have hgs : GraphSame w (w.modScope s fun x => { x with verified := true }) :=
    graphSame_modScope w s _ (fun _ => ⟨rfl, rfl, rfl⟩)
  rw [← hgs.checkAcyclic j]
  by_cases hjs : j = s
  · rw [hjs]; exact hca
  · rw [scope_modScope, if_neg (fun hc => hjs hc.1.symm)] at hv
    exact h j (by simpa [St.modScope] using hj) hv

theorem AC.invoke {st : St} (h : AC g st) (hg : GT st) (hp : PG st) (ho : OB st) (ctx : Ctx) (fn : Fn) (s : Nat)
    (info : Bool) : AC g (apiInvoke ctx fn st s info).1 :=
  apiInvoke_inv_frame h (h.parseParams hg hp ho ctx.env s fn) (fun _ hw hca => hw.flag hca) fun _ _ => AC.regFrame

end

/-- every scope's check answers "acyclic" -/
def EA (st : St) : Prop := ∀ s, s < st.scopes.length → checkAcyclic st s = .acyclic

theorem ea_iff {st : St} : EA st ↔ AC (fun _ => True) st :=
  ⟨fun h s hs _ => h s hs, fun h s hs => h s hs trivial⟩

theorem EA.init : EA ({} : St) := by
  intro s hs
  have : s = 0 := by simp at hs; omega
  subst this
  decide

theorem EA.graphSame {a b : St} (h : EA a) (hg : GraphSame a b) : EA b :=
  ea_iff.2 ((ea_iff.1 h).graphSame hg fun _ _ => trivial)

theorem EA.resetLog {st : St} (h : EA st) : EA { st with log := [] } :=
  ea_iff.2 (ea_iff.1 h).resetLog

theorem EA.parseParams {st : St} (h : EA st) (hg : GT st) (hp : PG st) (ho : OB st) (env : TyEnv) (sc : Nat) (fn : Fn) :
    EA (Dig.parseParams env st sc fn).2 :=
  ea_iff.2 ((ea_iff.1 h).parseParams hg hp ho env sc fn)

theorem EA.decorate {st : St} (h : EA st) (hg : GT st) (hp : PG st) (ho : OB st) (ctx : Ctx) (fn : Fn) (i s : Nat) (cb info : Bool) :
    EA (apiDecorate ctx fn st i s cb info).1 :=
  ea_iff.2 ((ea_iff.1 h).decorate hg hp ho ctx fn i s cb info)

theorem EA.invoke {st : St} (h : EA st) (hg : GT st) (hp : PG st) (ho : OB st) (ctx : Ctx) (fn : Fn) (s : Nat) (info : Bool) :
    EA (apiInvoke ctx fn st s info).1 :=
  ea_iff.2 ((ea_iff.1 h).invoke hg hp ho ctx fn s info)

theorem EA.provide {st : St} (h : EA st) (hg : GT st) (hp : PG st) (ho : OB st) (ctx : Ctx) (hd : ctx.cfg.deferAcyclic = false)
    (fn : Fn) (i s : Nat) (o : ProvideOpts) : EA (apiProvide ctx fn st i s o).1 := by
  refine apiProvide_stages ctx fn st i s o (P := fun x => x.2.v ≠ .panicDig → EA x.1)
    (fun _ _ he _ => h.graphSame (graphSame_of_eqButVerified he)) (fun _ _ _ _ _ _ _ _ _ _ _ hv => absurd rfl hv) ?_
    (ho.provide ctx fn i s o).2
  -- the loop has checked the scopes of the subtree; the others show the graph they showed
  intro target params results n w0 w5 hreg hvs _
  obtain ⟨_, keys, hr⟩ := provideRegister_ok hreg
  have hw5 := work_verifyScopes (target := target) ctx.cfg (st.subscopes target) w0 hr.work
  have hok := verifyScopes_ok_acyclic ctx.cfg hd (st.subscopes target) w0
  rw [hvs] at hw5 hok
  refine EA.graphSame (fun sc hsc => ?_) (graphSame_modScope _ target _ fun _ => ⟨rfl, rfl, rfl⟩)
  have hsc' : sc < st.scopes.length := by rw [← hw5.len]; exact hsc
  by_cases hin : sc ∈ st.subscopes target
  · exact hok rfl sc hin
  · rw [(localSame_work hw5 hg hp sc hsc' hin).checkAcyclic]
    exact h sc hsc'

/-- everything the graph theorems need, plus acyclicity of every view -/
structure EagerInv (st : St) : Prop where
  gt : GT st
  pg : PG st
  ob : OB st
  ea : EA st

theorem EagerInv.init : EagerInv ({} : St) := ⟨GT.init, PG.init, OB.init, EA.init⟩

/-- the invariants of the graph theorems along every history -/
theorem graphInv_stepInv (ctx : Ctx) (fns : List Fn) : StepInv ctx fns fun st => (GT st ∧ PG st) ∧ OB st :=
  (PG.stepInv ctx fns).and (fun _ h => h.resetLog) (fun _ p _ h _ hp => h.scope p hp)
    (fun _ i s _ fn o _ h _ _ _ => (h.provide ctx fn i s o).1) (fun _ i s _ fn cb info _ h _ _ _ => (h.decorate ctx fn i s cb info).1)
    (fun _ s _ fn info _ h _ _ _ => (h.invoke ctx fn s info).1)

/-- `AC g` holds along every history once Provide keeps it -/
theorem AC.stepInv {g : Bool → Prop} (ctx : Ctx) (fns : List Fn) (hnew : ∀ v, g false → g v)
    (hprov : ∀ st fn i s o, GT st → PG st → OB st → AC g st → AC g (apiProvide ctx fn st i s o).1) :
    StepInv ctx fns fun st => ((GT st ∧ PG st) ∧ OB st) ∧ AC g st :=
  (graphInv_stepInv ctx fns).and (fun _ h => h.resetLog) (fun _ p hb h _ hp => h.scope hb.1.1 hb.1.2 p hp (hnew _))
    (fun _ i s _ fn o hb h _ _ _ => hprov _ fn i s o hb.1.1 hb.1.2 hb.2 h)
    (fun _ i s _ fn cb info hb h _ _ _ => h.decorate hb.1.1 hb.1.2 hb.2 ctx fn i s cb info)
    (fun _ s _ fn info hb h _ _ _ => h.invoke hb.1.1 hb.1.2 hb.2 ctx fn s info)

theorem EagerInv.step {st : St} (h : EagerInv st) (ctx : Ctx) (hd : ctx.cfg.deferAcyclic = false) (fns : List Fn) (i : Nat) (op : Op) :
    EagerInv (Dig.step ctx fns st i op).1 :=
  have ⟨⟨⟨h1, h2⟩, h3⟩, h4⟩ := step_inv (AC.stepInv ctx fns (fun _ _ => trivial) fun _ fn i s o hg hp ho he =>
    ea_iff.1 ((ea_iff.2 he).provide hg hp ho ctx hd fn i s o)) ⟨⟨⟨h.gt, h.pg⟩, h.ob⟩, ea_iff.1 h.ea⟩ i op
  ⟨h1, h2, h3, ea_iff.2 h4⟩

theorem EagerInv.runOps (ctx : Ctx) (hd : ctx.cfg.deferAcyclic = false) (fns : List Fn) (ops : List Op) (i : Nat) (st : St)
    (acc : List OpRes) (h : EagerInv st) : EagerInv (Dig.runOps ctx fns ops i st acc).1 :=
  (runOps_inv_all (I := EagerInv) (P := fun _ => True) (fun _ i op h => ⟨h.step ctx hd fns i op, trivial⟩) ops i st acc h
    fun _ _ => trivial).1

/-- **without DeferAcyclicVerification, at the end of every history every scope's graph is acyclic**: no scope sees a
    dependency cycle, whatever was provided, decorated, invoked or rejected on the way -/
theorem eager_program_acyclic (p : Program) (hd : p.cfg.deferAcyclic = false) (s : Nat) (hs : s < (runProgram p).1.scopes.length) :
    checkAcyclic (runProgram p).1 s = .acyclic ∧ NoCycle (runProgram p).1 s := by
  have h := EagerInv.runOps p.ctx hd p.fns p.ops 0 {} [] EagerInv.init
  exact ⟨h.ea s hs, (acyclic_iff_noCycle h.gt.gm h.pg h.ob s).mp (h.ea s hs)⟩

end Dig
