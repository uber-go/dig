import DigModel.Reflect
/-
  The strings dig reads from struct tags and options, as closed forms of their parsers: which group strings are
  accepted and what they mean, the spellings of a boolean tag, the interfaces a `dig.As` keeps.
-/
namespace Dig

theorem parseGroupOpts_eq : ∀ (opts : List String) (g : GroupSpec), parseGroupOpts opts g =
    if ∀ o ∈ opts, o = "flatten" ∨ o = "soft" then
      .ok { name := g.name, flatten := g.flatten || opts.contains "flatten", soft := g.soft || opts.contains "soft" }
    else .error .groupOpt
  | [], g => by simp [parseGroupOpts]
  | c :: cs, g => by
    rw [parseGroupOpts, parseGroupOpts_eq cs, parseGroupOpts_eq cs]
    by_cases h1 : c = "flatten"
    · subst h1; simp
    · by_cases h2 : c = "soft"
      · subst h2; simp
      · simp [h1, h2]

/-- **the grammar of a group tag / `dig.Group` value**: it is accepted exactly when its first comma-separated component
    (the group's name) is not empty and every further component is `flatten` or `soft`; the name is that first component,
    verbatim (blanks included), the flags say whether the word occurs -/
theorem parseGroupString_ok_iff (s : String) (g : GroupSpec) :
    parseGroupString s = .ok g ↔
      ∃ name opts, s.splitOn "," = name :: opts ∧ name ≠ "" ∧ (∀ o ∈ opts, o = "flatten" ∨ o = "soft") ∧
        g = { name := name, flatten := opts.contains "flatten", soft := opts.contains "soft" } := by
  unfold parseGroupString
  cases hs : s.splitOn "," with
  | nil => simp
  | cons name opts =>
    simp only [parseGroupOpts_eq, Bool.false_or, List.cons.injEq]
    by_cases hn : name = ""
    · simp [hn]
    · by_cases ha : ∀ o ∈ opts, o = "flatten" ∨ o = "soft"
      · simp only [beq_iff_eq, hn, if_false, if_pos ha, Except.ok.injEq]
        constructor
        · rintro rfl; exact ⟨name, opts, ⟨rfl, rfl⟩, hn, ha, rfl⟩
        · rintro ⟨_, _, ⟨rfl, rfl⟩, -, -, rfl⟩; rfl
      · simp only [beq_iff_eq, hn, if_false, if_neg ha, reduceCtorEq, false_iff]
        rintro ⟨_, _, ⟨rfl, rfl⟩, -, ha', -⟩; exact ha ha'

theorem parseGroupString_error (s : String) (e : DErr) (h : parseGroupString s = .error e) : e = .invalid0 ∨ e = .groupOpt := by
  unfold parseGroupString at h
  cases hs : s.splitOn "," with
  | nil => rw [hs] at h; injection h with h; exact Or.inl h.symm
  | cons name opts =>
    rw [hs] at h
    simp only [parseGroupOpts_eq] at h
    split at h
    · injection h with h; exact Or.inl h.symm
    · split at h
      · cases h
      · injection h with h; exact Or.inr h.symm

/-- **the boolean struct tags** (`optional`, `ignore-unexported`): absent means false; otherwise exactly the twelve
    spellings `strconv.ParseBool` knows are accepted, anything else is invalid input -/
theorem boolTag_spec (tag : String) :
    boolTag tag =
      if tag = "" then .ok false
      else if tag ∈ ["1", "t", "T", "TRUE", "true", "True"] then .ok true
      else if tag ∈ ["0", "f", "F", "FALSE", "false", "False"] then .ok false
      else .error .invalid0 := by
  unfold boolTag parseBool
  simp only [beq_iff_eq, Bool.or_eq_true, List.mem_cons, List.not_mem_nil, or_false, or_assoc]
  -- turned round, `split` goes by the three conditions and not by the `match` on `parseBool`
  symm
  split
  · rfl
  · split
    · rfl
    · split <;> rfl

/-- **`dig.As`**: the listed interfaces other than the type itself are kept, in order; the list is accepted exactly when
    the type implements each of them -/
theorem asTypes_eq (env : TyEnv) (t : GoT) : ∀ as : List Nat, asTypes env t as =
    if as.all fun a => a == t.id || implementsT env t a then .ok (as.filter (· != t.id)) else .error .invalid0
  | [] => rfl
  | a :: rest => by
    rw [asTypes, asTypes_eq env t rest, List.all_cons, List.filter_cons, bne]
    cases a == t.id <;> cases implementsT env t a <;> cases rest.all _ <;> rfl

end Dig
