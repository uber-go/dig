import DigModel.Engine
/-
  Reasoning about `EM` programs: the outcome of a run either is a value with a state satisfying a
  post-condition `Q`, or a failure with a state satisfying `E`.  Pre-conditions, invariants and relations to
  the start state are hypotheses about, and closures over, the start state.  One rule per combinator and
  loop of the resolver, the leaf steps' outcomes, the successor equations of the six resolver functions, and the frames
  the resolver puts around its recursive calls (the body of a `Call`, the loops of `buildGroup`, the two passes over an
  object's fields) with the calls' outcomes as hypotheses.
-/
namespace Dig

def Sat {α : Type} (r : Except Fail α × St) (Q : α → St → Prop) (E : Fail → St → Prop) : Prop :=
  match r with
  | (.ok a, s) => Q a s
  | (.error e, s) => E e s

section
variable {α : Type} {r : Except Fail α × St} {Q Q' : α → St → Prop} {E E' : Fail → St → Prop}

theorem sat_iff : Sat r Q E ↔ (∀ a, r.1 = .ok a → Q a r.2) ∧ (∀ e, r.1 = .error e → E e r.2) := by
  rcases r with ⟨_ | _, s⟩
  · exact ⟨fun h => ⟨nofun, fun _ he => Except.error.inj he ▸ h⟩, fun h => h.2 _ rfl⟩
  · exact ⟨fun h => ⟨fun _ ha => Except.ok.inj ha ▸ h, nofun⟩, fun h => h.1 _ rfl⟩

theorem Sat.ok {a : α} {s : St} (h : Sat r Q E) (hr : r = (.ok a, s)) : Q a s := by subst hr; exact h

theorem Sat.error {e : Fail} {s : St} (h : Sat r Q E) (hr : r = (.error e, s)) : E e s := by subst hr; exact h

theorem Sat.mono (h : Sat r Q E) (hq : ∀ a s, Q a s → Q' a s) (he : ∀ e s, E e s → E' e s) : Sat r Q' E' := by
  rcases r with ⟨_ | _, s⟩
  · exact he _ _ h
  · exact hq _ _ h

theorem Sat.and (h : Sat r Q E) (h' : Sat r Q' E') : Sat r (fun a s => Q a s ∧ Q' a s) (fun e s => E e s ∧ E' e s) := by
  rcases r with ⟨_ | _, s⟩ <;> exact ⟨h, h'⟩

theorem ne_of_sat {g : Fail} (h : Sat r Q (fun e _ => e ≠ g)) : r.1 ≠ .error g :=
  fun hg => (sat_iff.1 h).2 _ hg rfl

theorem sat_of_ne {g : Fail} {I : St → Prop} (h : r.1 ≠ .error g) (hI : I r.2) :
    Sat r (fun _ => I) (fun e _ => e ≠ g) :=
  sat_iff.2 ⟨fun _ _ => hI, fun _ he hg => h (hg ▸ he)⟩

theorem sat_state {I : St → Prop} : Sat r (fun _ => I) (fun _ => I) ↔ I r.2 := by
  rcases r with ⟨_ | _, s⟩ <;> exact Iff.rfl

end

section
variable {α β : Type} {st : St} {E : Fail → St → Prop}

theorem bind_sat {m : EM α} {f : α → EM β} {R : α → St → Prop} {Q : β → St → Prop}
    (hm : Sat (m st) R E) (hf : ∀ a s, R a s → Sat (f a s) Q E) : Sat (EM.bind m f st) Q E := by
  unfold EM.bind
  generalize m st = r at hm
  rcases r with ⟨_ | a, s⟩
  · exact hm
  · exact hf a s hm

theorem bind_eq_ok {m : EM α} {f : α → EM β} {b : β} {s' : St} (h : EM.bind m f st = (.ok b, s')) :
    ∃ a s, m st = (.ok a, s) ∧ f a s = (.ok b, s') := by
  unfold EM.bind at h
  generalize m st = r at h
  rcases r with ⟨_ | a, s⟩
  · cases h
  · exact ⟨a, s, rfl, h⟩

/-- what `EM.wrapErr` does to a failure -/
def Fail.wrap (w : DErr → DErr) : Fail → Fail
  | .err e => .err (w e)
  | f => f

theorem Fail.wrap_ne {w : DErr → DErr} {e f : Fail} (hf : ∀ d, f ≠ .err d) (h : e ≠ f) : e.wrap w ≠ f := by
  cases e with
  | err d => exact fun hc => hf _ hc.symm
  | _ => exact h

theorem wrapErr_sat {m : EM α} {w : DErr → DErr} {Q : α → St → Prop} {E' : Fail → St → Prop}
    (hm : Sat (m st) Q E') (he : ∀ e s, E' e s → E (e.wrap w) s) : Sat (EM.wrapErr m w st) Q E := by
  unfold EM.wrapErr
  generalize m st = r at hm
  rcases r with ⟨e | a, s⟩
  · cases e <;> exact he _ _ hm
  · exact hm

theorem wrapErr_ne {m : EM α} (w : DErr → DErr) {g : Fail} (hg : ∀ d, g ≠ .err d) (h : (m st).1 ≠ .error g) :
    (EM.wrapErr m w st).1 ≠ .error g :=
  ne_of_sat (wrapErr_sat (sat_of_ne (I := fun _ => True) h trivial) fun _ _ => Fail.wrap_ne hg)

theorem wrapErr_state (m : EM α) (w : DErr → DErr) (st : St) : (EM.wrapErr m w st).2 = (m st).2 := by
  unfold EM.wrapErr
  rcases m st with ⟨e | a, s⟩
  · cases e <;> rfl
  · rfl

theorem wrapErr_ok {m : EM α} (w : DErr → DErr) {s' : St} {a : α} (h : EM.wrapErr m w st = (.ok a, s')) :
    m st = (.ok a, s') := by
  unfold EM.wrapErr at h
  generalize m st = r at h
  rcases r with ⟨e | a, s⟩
  · cases e <;> cases h
  · exact h

theorem finally_sat {m : EM α} {fin : St → St} {Q Q' : α → St → Prop} {E' : Fail → St → Prop}
    (hm : Sat (m st) Q' E') (hq : ∀ a s, Q' a s → Q a (fin s)) (he : ∀ e s, E' e s → E e (fin s)) :
    Sat (EM.finally_ m fin st) Q E := by
  unfold EM.finally_
  generalize m st = r at hm
  rcases r with ⟨e | a, s⟩
  · exact he _ _ hm
  · exact hq _ _ hm

/-! ### the loops: the invariant may speak of the elements done so far -/

theorem forEachM_sat {f : α → EM Unit} (xs : List α) {I : List α → St → Prop} (h0 : I [] st)
    (step : ∀ pre x post, xs = pre ++ x :: post → ∀ s, I pre s → Sat (f x s) (fun _ => I (pre ++ [x])) E) :
    Sat (forEachM xs f st) (fun _ => I xs) E := by
  induction xs generalizing I st with
  | nil => exact h0
  | cons x rest ih =>
    refine bind_sat (step [] x rest rfl st h0) fun _ s h => ?_
    exact ih (I := fun pre => I (x :: pre)) h fun pre y post e => step (x :: pre) y post (e ▸ rfl)

theorem firstM_sat {f : α → EM (Option β)} (xs : List α) {I : List α → St → Prop} {Q : Option β → St → Prop}
    (h0 : I [] st)
    (step : ∀ pre x post, xs = pre ++ x :: post → ∀ s, I pre s →
      Sat (f x s) (fun o s' => match o with | some b => Q (some b) s' | none => I (pre ++ [x]) s') E)
    (exit : ∀ s, I xs s → Q none s) : Sat (firstM xs f st) Q E := by
  induction xs generalizing I st with
  | nil => exact exit st h0
  | cons x rest ih =>
    refine bind_sat (step [] x rest rfl st h0) fun o s h => ?_
    cases o with
    | some b => exact h
    | none => exact ih (I := fun pre => I (x :: pre)) h (fun pre y post e => step (x :: pre) y post (e ▸ rfl)) exit

theorem mapM_sat {f : α → EM β} (xs : List α) {I : List α → List β → St → Prop} (h0 : I [] [] st)
    (step : ∀ pre x post, xs = pre ++ x :: post → ∀ bs s, I pre bs s →
      Sat (f x s) (fun b => I (pre ++ [x]) (bs ++ [b])) E) :
    Sat (mapM' xs f st) (I xs) E := by
  induction xs generalizing I st with
  | nil => exact h0
  | cons x rest ih =>
    refine bind_sat (step [] x rest rfl [] st h0) fun b s h => ?_
    refine bind_sat (R := fun bs => I (x :: rest) (b :: bs)) ?_ fun bs s h => h
    exact ih (I := fun pre bs => I (x :: pre) (b :: bs)) h fun pre y post e bs => step (x :: pre) y post (e ▸ rfl) (b :: bs)

theorem mem_of_eq_append {xs pre post : List α} {x : α} (h : xs = pre ++ x :: post) : x ∈ xs :=
  h ▸ List.mem_append_right _ (List.mem_cons_self ..)

theorem forEachM_inv {f : α → EM Unit} {xs : List α} {I : St → Prop} (h0 : I st)
    (step : ∀ x ∈ xs, ∀ s, I s → Sat (f x s) (fun _ => I) E) : Sat (forEachM xs f st) (fun _ => I) E :=
  forEachM_sat xs (I := fun _ => I) h0 fun _ x _ e => step x (mem_of_eq_append e)

theorem firstM_inv {f : α → EM (Option β)} {xs : List α} {I : St → Prop} (h0 : I st)
    (step : ∀ x ∈ xs, ∀ s, I s → Sat (f x s) (fun _ => I) E) : Sat (firstM xs f st) (fun _ => I) E :=
  firstM_sat xs (I := fun _ => I) h0
    (fun _ x _ e s hs => (step x (mem_of_eq_append e) s hs).mono (fun o _ h => by cases o <;> exact h) fun _ _ h => h)
    fun _ h => h

theorem mapM_inv {f : α → EM β} {xs : List α} {I : St → Prop} (h0 : I st)
    (step : ∀ x ∈ xs, ∀ s, I s → Sat (f x s) (fun _ => I) E) : Sat (mapM' xs f st) (fun _ => I) E :=
  mapM_sat xs (I := fun _ _ => I) h0 fun _ x _ e _ => step x (mem_of_eq_append e)

/-- a list built element by element: the invariant `I` is kept and on a normal return every element's post-condition `Q x`,
    which each step must keep for the elements before it, holds at the end -/
theorem mapM_sat_each {f : α → EM β} {xs : List α} {I : St → Prop} {Q : α → St → Prop} (h0 : I st)
    (step : ∀ x ∈ xs, ∀ s, I s → Sat (f x s) (fun _ s' => I s' ∧ Q x s' ∧ ∀ y, Q y s → Q y s') E) :
    Sat (mapM' xs f st) (fun _ s => I s ∧ ∀ x ∈ xs, Q x s) E := by
  refine mapM_sat xs (I := fun pre _ s => I s ∧ ∀ x ∈ pre, Q x s) ⟨h0, nofun⟩ fun pre x _ e _ s ⟨hI, hpre⟩ => ?_
  refine (step x (mem_of_eq_append e) s hI).mono (fun _ s' ⟨hI', hx, hkeep⟩ => ⟨hI', fun y hy => ?_⟩) fun _ _ h => h
  rcases List.mem_append.mp hy with hy | hy
  · exact hkeep y (hpre y hy)
  · rw [List.mem_singleton.mp hy]; exact hx

end

theorem shallowCheck_sat (c : Nat) (ps : List Param) (st : St) :
    Sat (shallowCheck c ps st) (fun _ s => s = st)
      (fun e s => s = st ∧ missingOfList st c ps ≠ [] ∧
        e = .err (.missingDeps (.missingTypes (missingOfList st c ps)))) := by
  unfold shallowCheck
  cases hm : missingOfList st c ps with
  | nil => exact rfl
  | cons k ks => exact ⟨rfl, nofun, rfl⟩

theorem shallowCheck_state (c : Nat) (ps : List Param) (st : St) : (shallowCheck c ps st).2 = st := by
  unfold shallowCheck
  split <;> rfl

theorem providerStep_state (env : TyEnv) (k : Key) (opt : Bool) (n : Nat) (r : Except Fail Unit × St) :
    (providerStep env k opt n r).2 = r.2 := by
  unfold providerStep
  rcases r with ⟨e | _, s⟩
  · cases e with
    | err e => simp only; split <;> rfl
    | _ => rfl
  · rfl

theorem providerStep_sat {env : TyEnv} {k : Key} {opt : Bool} {cid : Nat} {r : Except Fail Unit × St}
    {Q : Unit → St → Prop} {E' E : Fail → St → Prop} {Q' : Option Val → St → Prop} (hr : Sat r Q E')
    (hnone : ∀ s, Q () s → Q' none s)
    (hopt : ∀ e s, E' (.err e) s → (e.hasMissingDeps && opt) = true → Q' (some (zeroVal env k.ty)) s)
    (herr : ∀ e s, E' (.err e) s → (e.hasMissingDeps && opt) = false → E (.err (.paramSingle k cid e)) s)
    (he : ∀ f s, (∀ d, f ≠ .err d) → E' f s → E f s) : Sat (providerStep env k opt cid r) Q' E := by
  unfold providerStep
  rcases r with ⟨e | _, s⟩
  · cases e with
    | err e =>
      simp only
      split
      · exact hopt e s hr ‹_›
      · exact herr e s hr (Bool.eq_false_iff.2 ‹_›)
    | _ => exact he _ _ nofun hr
  · exact hnone _ hr

theorem providerStep_ne {env : TyEnv} {k : Key} {opt : Bool} {cid : Nat} {r : Except Fail Unit × St} {g : Fail}
    (hg : ∀ d, g ≠ .err d) (h : r.1 ≠ .error g) : (providerStep env k opt cid r).1 ≠ .error g :=
  ne_of_sat (Q := fun _ _ => True) (providerStep_sat (sat_of_ne (I := fun _ => True) h trivial) (fun _ _ => trivial)
    (fun _ _ _ _ => trivial) (fun _ _ _ _ => (hg _).symm) fun _ _ _ h => h)

theorem ctorTail_sat (ctx : Ctx) (n : Nat) (node : CtorNode) (args : List Val) (st : St) :
    Sat (ctorTail ctx n node args st) (fun _ _ => True) (fun e _ => e ≠ .bug ∧ e ≠ .fuel) := by
  unfold ctorTail ctorOutcome
  simp only
  split
  · split <;> exact ⟨nofun, nofun⟩
  · exact ⟨nofun, nofun⟩
  · trivial
  · trivial

theorem decoTail_sat (ctx : Ctx) (d : Nat) (node : DecoNode) (args : List Val) (st : St) :
    Sat (decoTail ctx d node args st) (fun _ _ => True) (fun e _ => e ≠ .bug ∧ e ≠ .fuel) := by
  unfold decoTail decoOutcome
  simp only
  split
  · split <;> exact ⟨nofun, nofun⟩
  · exact ⟨nofun, nofun⟩
  · trivial
  · trivial

/-! ### the resolver, one step of fuel unfolded -/

section
variable (ctx : Ctx) (fuel : Nat)

theorem callCtor_zero (n c : Nat) : callCtor ctx 0 n c = EM.fail .fuel := by simp only [callCtor]
theorem callDeco_zero (d s : Nat) : callDeco ctx 0 d s = EM.fail .fuel := by simp only [callDeco]
theorem buildSingle_zero (k : Key) (opt : Bool) (c : Nat) : buildSingle ctx 0 k opt c = EM.fail .fuel := by
  simp only [buildSingle]
theorem buildGroup_zero (k : Key) (soft : Bool) (c : Nat) : buildGroup ctx 0 k soft c = EM.fail .fuel := by
  simp only [buildGroup]
theorem buildParam_zero (p : Param) (c : Nat) : buildParam ctx 0 p c = EM.fail .fuel := by simp only [buildParam]
theorem buildList_zero (ps : List Param) (c : Nat) : buildList ctx 0 ps c = EM.fail .fuel := by simp only [buildList]

theorem callCtor_succ (n c : Nat) (st : St) : callCtor ctx (fuel + 1) n c st =
    if (st.ctor n).called then (.ok (), st)
    else if (st.ctor n).onStack then (.error (.err (.cycle [n] (st.ctor n).s)), st)
    else EM.finally_
      (EM.bind (shallowCheck c (st.ctor n).params) fun _ =>
       EM.bind (EM.wrapErr (buildList ctx fuel (st.ctor n).params c) .argsFailed) fun args =>
       ctorTail ctx n (st.ctor n) args)
      (fun st => st.modCtor n fun x => { x with onStack := false })
      (st.modCtor n fun x => { x with onStack := true }) := by
  simp only [callCtor]

theorem callDeco_succ (d s : Nat) (st : St) : callDeco ctx (fuel + 1) d s st =
    if (st.deco d).state == .called then (.ok (), st)
    else EM.finally_
      (EM.bind (shallowCheck s (st.deco d).params) fun _ =>
       EM.bind (EM.wrapErr (buildList ctx fuel (st.deco d).params (st.deco d).s) .argsFailed) fun args =>
       decoTail ctx d (st.deco d) args)
      (fun st => st.modDeco d fun x => if x.state == .called then x else { x with state := .ready })
      (st.modDeco d fun x => { x with state := .onStack }) := by
  simp only [callDeco]

theorem buildSingle_succ (k : Key) (opt : Bool) (c : Nat) (st : St) : buildSingle ctx (fuel + 1) k opt c st =
    match findDeco st k (st.ancestors c) with
    | some (d, ds) =>
      EM.bind (EM.wrapErr (callDeco ctx fuel d ds) (.paramSingle k 1)) (fun _ => fun st' =>
        match aget (st'.scope ds).decoratedValues k with
        | some v => (.ok v, st')
        | none => (.error .bug, st')) st
    | none =>
      match findDecoratedValue st k (st.ancestors c) with
      | some v => (.ok v, st)
      | none =>
        match findProviders st k (st.ancestors c) with
        | .value v => (.ok v, st)
        | .none =>
          if opt then (.ok (zeroVal ctx.env k.ty), st)
          else (.error (.err (.missingTypes [k])), st)
        | .providers pc ns =>
          EM.bind (firstM ns fun n => fun st1 =>
              providerStep ctx.env k opt (ctorId ctx.sameIds (st1.ctor n).fn)
                (callCtor ctx fuel n (st1.ctor n).origS st1)) (fun early => fun st' =>
            match early with
            | some z => (.ok z, st')
            | none =>
              match aget (st'.scope pc).values k with
              | some v => (.ok v, st')
              | none => (.error .bug, st')) st := by
  simp only [buildSingle]; rfl

/-- `callGroupDecorators`, one scope -/
def groupDecoStep (k : Key) (s : Nat) : EM Unit := fun st1 =>
  match aget (st1.scope s).decorators k with
  | some d =>
    if (st1.deco d).state == DecoState.onStack then (.ok (), st1)
    else EM.wrapErr (callDeco ctx fuel d s) (.paramGroup k (ctorId ctx.sameIds (st1.deco d).fn)) st1
  | none => (.ok (), st1)

/-- `callGroupProviders`, one scope -/
def groupProvStep (k : Key) (s : Nat) : EM Unit := fun st3 =>
  forEachM (agetL (st3.scope s).providers k)
    (fun n => fun st4 =>
      EM.wrapErr (callCtor ctx fuel n (st4.ctor n).origS) (.paramGroup k (ctorId ctx.sameIds (st4.ctor n).fn)) st4) st3

theorem buildGroup_succ (k : Key) (soft : Bool) (c : Nat) (st : St) : buildGroup ctx (fuel + 1) k soft c st =
    EM.bind (forEachM (st.ancestors c).reverse (groupDecoStep ctx fuel k)) (fun _ => fun st2 =>
      match findDecoratedGroup st2 k (st.ancestors c) with
      | some v => (.ok v, st2)
      | none =>
        EM.bind (if soft then EM.pure () else forEachM (st.ancestors c) (groupProvStep ctx fuel k))
          (fun _ => fun st5 => (.ok (Val.sl ((st.ancestors c).flatMap fun s => agetL (st5.scope s).groups k)), st5))
          st2) st := by
  simp only [buildGroup]; rfl

theorem buildParam_succ (p : Param) (c : Nat) : buildParam ctx (fuel + 1) p c =
    match p with
    | .single k opt => buildSingle ctx fuel k opt c
    | .grouped _ k soft _ => buildGroup ctx fuel k soft c
    | .object _ fs =>
      EM.bind (mapM' (fs.filter (fun f => !isSoft f)) fun f => buildParam ctx fuel f c) fun hard =>
      EM.bind (mapM' (fs.filter isSoft) fun f => buildParam ctx fuel f c) fun soft =>
      EM.pure (.obj (interleave fs hard soft)) := by
  cases p <;> simp only [buildParam]

theorem buildList_succ (ps : List Param) (c : Nat) :
    buildList ctx (fuel + 1) ps c = mapM' ps fun p => buildParam ctx fuel p c := by
  simp only [buildList]

end

/-! ### an invariant through the frames around the recursive calls -/

section
variable {ctx : Ctx} {fuel : Nat} {I : St → Prop} {E : Fail → St → Prop} {st : St}

/-- the frame both `Call`s put around their arguments and their tail does not end in a failure `g` that is no `error`,
    if neither part does; `c'` is the scope the arguments are built from, which for a decorator is the node's own and
    not the `c` the shallow check looks at -/
theorem callFrame_ne {g : Fail} (hg : ∀ d, g ≠ .err d) {c c' : Nat} {ps : List Param} {tail : List Val → EM Unit}
    {fin : St → St} (hL : (buildList ctx fuel ps c' st).1 ≠ .error g)
    (hT : ∀ args s, Sat (tail args s) (fun _ _ => True) fun e _ => e ≠ g) :
    Sat (EM.finally_ (EM.bind (shallowCheck c ps) fun _ =>
        EM.bind (EM.wrapErr (buildList ctx fuel ps c') .argsFailed) fun args => tail args) fin st)
      (fun _ _ => True) (fun e _ => e ≠ g) := by
  refine finally_sat ?_ (fun _ _ h => h) (fun _ _ h => h)
  refine bind_sat ((shallowCheck_sat _ _ _).mono (fun _ _ e => e) (fun _ _ ⟨_, _, e⟩ => e ▸ (hg _).symm)) ?_
  rintro _ _ rfl
  exact bind_sat (sat_of_ne (I := fun _ => True) (wrapErr_ne _ hg hL) trivial) fun args s _ => hT args s

/-- `buildGroup` keeps `I`; in `hC` the provider list is read in `s3`, the state the scope's loop starts in, while the
    call runs in `s4`, the state the earlier providers of that scope have left -/
theorem buildGroup_inv {k : Key} {soft : Bool} {c : Nat} (hE : ∀ id e s, E e s → E (e.wrap (.paramGroup k id)) s) (h : I st)
    (hD : ∀ s ∈ st.ancestors c, ∀ d s1, I s1 → aget (s1.scope s).decorators k = some d → (s1.deco d).state ≠ .onStack →
      Sat (callDeco ctx fuel d s s1) (fun _ => I) E)
    (hC : soft = false → ∀ s ∈ st.ancestors c, ∀ n s3 s4, I s3 → n ∈ agetL (s3.scope s).providers k → I s4 →
      Sat (callCtor ctx fuel n (s4.ctor n).origS s4) (fun _ => I) E) :
    Sat (buildGroup ctx (fuel + 1) k soft c st) (fun _ => I) E := by
  rw [buildGroup_succ]
  refine bind_sat (forEachM_inv h fun s hs s1 h1 => ?_) fun _ st2 h2 => ?_
  · simp only [groupDecoStep]
    split
    · rename_i d hdec
      split
      · exact h1
      · rename_i hne
        exact wrapErr_sat (hD s (List.mem_reverse.mp hs) d s1 h1 hdec fun hc => hne (by rw [hc]; rfl)) (hE _)
    · exact h1
  · split
    · exact h2
    · refine bind_sat (R := fun _ => I) ?_ fun _ _ h => h
      split
      · exact h2
      · rename_i hsoft
        refine forEachM_inv h2 fun s hs s3 h3 => ?_
        simp only [groupProvStep]
        exact forEachM_inv h3 fun n hn s4 h4 =>
          wrapErr_sat (hC (Bool.eq_false_iff.2 hsoft) s hs n s3 s4 h3 hn h4) (hE _)

/-- the two passes over an object's fields -/
theorem fields_inv {ty : Nat} {fs : List Param} {c : Nat} (h : I st)
    (step : ∀ f ∈ fs, ∀ s, I s → Sat (buildParam ctx fuel f c s) (fun _ => I) E) :
    Sat (buildParam ctx (fuel + 1) (.object ty fs) c st) (fun _ => I) E := by
  rw [buildParam_succ]
  refine bind_sat (mapM_inv h fun f hf => step f (List.mem_filter.mp hf).1) fun _ s1 h1 => ?_
  exact bind_sat (mapM_inv h1 fun f hf => step f (List.mem_filter.mp hf).1) fun _ _ h => h

theorem fields_sat_each {ty : Nat} {fs : List Param} {c : Nat} {Q : Param → St → Prop} (h : I st)
    (step : ∀ f ∈ fs, ∀ s, I s → Sat (buildParam ctx fuel f c s) (fun _ s' => I s' ∧ Q f s' ∧ ∀ y, Q y s → Q y s') E) :
    Sat (buildParam ctx (fuel + 1) (.object ty fs) c st) (fun _ s => I s ∧ ∀ f ∈ fs, Q f s) E := by
  rw [buildParam_succ]
  refine bind_sat (mapM_sat_each h fun f hf => step f (List.mem_filter.mp hf).1) fun _ s1 ⟨h1, hp1⟩ => ?_
  -- the second pass keeps what the first delivered
  refine bind_sat (mapM_sat_each (I := fun s => I s ∧ ∀ f ∈ fs.filter (fun f => !isSoft f), Q f s) ⟨h1, hp1⟩
    fun f hf s ⟨hs, hq⟩ => (step f (List.mem_filter.mp hf).1 s hs).mono
      (fun _ _ ⟨hI, hQ, hk⟩ => ⟨⟨hI, fun y hy => hk y (hq y hy)⟩, hQ, hk⟩) fun _ _ h => h) fun _ s2 ⟨⟨h2, hp1⟩, hp2⟩ => ?_
  refine ⟨h2, fun f hf => ?_⟩
  cases hs : isSoft f with
  | true => exact hp2 f (List.mem_filter.2 ⟨hf, hs⟩)
  | false => exact hp1 f (List.mem_filter.2 ⟨hf, by rw [hs]; rfl⟩)

end

end Dig
