import DigModel.Proofs.DotLexProofs
import DigModel.Proofs.DotTextProofs
/-
  The document `visualizeGraph` writes is a well-formed list of items — for every graph, every type, name and group
  text, and every quoting function that closes its strings — hence (`lex_items`) the DOT lexer reads it back as exactly
  the tokens the writer meant.
-/
namespace Dig.DotRender
open Dig.DotSyntax Dig.DotText

/-! ### the strings

  Facts about the string constants of the writer are evaluated by `decide +kernel`: the kernel's evaluation is the
  proof, and the elaborator's own evaluation of `"…".toList`, which plain `decide` runs first, costs twice as much. -/

theorem lexQuoted_plain (c : Char) (h1 : c ≠ '"') (h2 : c ≠ '\\') (acc rest : List Char) :
    lexQuoted acc (c :: rest) = lexQuoted (acc ++ [c]) rest := by
  rw [lexQuoted]
  · exact fun h => h1 h
  · intro c' r h _; exact h2 h
  · intro h _; exact h2 h

def QPiece (p : List Char) : Prop := ∀ acc rest, lexQuoted acc (p ++ rest) = lexQuoted (acc ++ p) rest

theorem qpiece_plain (c : Char) (h1 : c ≠ '"') (h2 : c ≠ '\\') : QPiece [c] := by
  intro acc rest
  simp only [List.cons_append, List.nil_append]
  exact lexQuoted_plain c h1 h2 acc rest

theorem qpiece_esc (d : Char) : QPiece ['\\', d] := by
  intro acc rest
  simp only [List.cons_append, List.nil_append]
  rw [lexQuoted]

theorem QPiece.append {a b : List Char} (ha : QPiece a) (hb : QPiece b) : QPiece (a ++ b) := by
  intro acc rest
  rw [List.append_assoc, ha, hb, List.append_assoc]

theorem QPiece.ite {p : Prop} [Decidable p] {a b : List Char} (ha : p → QPiece a) (hb : ¬p → QPiece b) :
    QPiece (if p then a else b) := by
  split
  · exact ha ‹_›
  · exact hb ‹_›

theorem hexDigit_plain : ∀ k, k < 16 → hexDigit k ≠ '"' ∧ hexDigit k ≠ '\\' := by decide

theorem qpiece_hexDigit (k : Nat) (h : k < 16) : QPiece [hexDigit k] :=
  qpiece_plain _ (hexDigit_plain k h).1 (hexDigit_plain k h).2

theorem qpiece_qChar (c : Char) : QPiece (qChar c) := by
  unfold qChar
  refine .ite (fun _ => qpiece_esc _) fun h1 => .ite (fun _ => qpiece_esc _) fun h2 => ?_
  iterate 7 refine .ite (fun _ => qpiece_esc _) fun _ => ?_
  refine .ite (fun h => ?_) fun _ => qpiece_plain c h1 h2
  exact (qpiece_esc 'x').append
    ((qpiece_hexDigit _ (by omega)).append (qpiece_hexDigit _ (Nat.mod_lt _ (by decide))))

theorem goQuote_closed : ∀ s, QClosed (goQuote s)
  | [], r, acc => by simp [goQuote, lexQuoted]
  | c :: s, r, acc => by
    have ih := goQuote_closed s r
    unfold goQuote at ih ⊢
    rw [List.flatMap_cons, List.append_assoc, qpiece_qChar c, ih, List.append_assoc]

theorem hclosed_second (t : List Char) {pfx : List Char} (h : '<' ∉ pfx ∧ '>' ∉ pfx) (x : List Char) :
    HClosed (labelBody t (some (pfx, x))) :=
  fun r => scan_labelBody t _ (fun p hp => by cases hp; exact h) r

theorem hclosed_groupBody (t name : List Char) : HClosed (labelBody t (some ("Group: ".toList, name))) :=
  hclosed_second t (by decide +kernel) name

theorem hclosed_resultBody (t name group : List Char) : HClosed (resultBody t name group) := by
  unfold resultBody
  split
  · exact hclosed_second t (by decide +kernel) name
  · split
    · exact hclosed_groupBody t group
    · exact fun r => scan_labelBody t none nofun r

theorem digit_id : ∀ k, k < 10 → isIdChar (Char.ofNat (48 + k)) = true := by decide

theorem digitsAux_id : ∀ (fuel n : Nat) (acc : List Char), (∀ c ∈ acc, isIdChar c = true) →
    ∀ c ∈ digitsAux fuel n acc, isIdChar c = true
  | 0, _, acc, h => by simpa [digitsAux] using h
  | fuel + 1, n, acc, h => by
    have hd : isIdChar (Char.ofNat (48 + n % 10)) = true := digit_id _ (Nat.mod_lt _ (by decide))
    have hacc : ∀ c ∈ Char.ofNat (48 + n % 10) :: acc, isIdChar c = true := by
      intro c hc
      rcases List.mem_cons.mp hc with rfl | hc
      · exact hd
      · exact h c hc
    simp only [digitsAux]
    split
    · exact hacc
    · exact digitsAux_id fuel (n / 10) _ hacc

theorem natDigits_id (n : Nat) : ∀ c ∈ natDigits n, isIdChar c = true :=
  digitsAux_id _ _ [] (by simp)

theorem wf_numbered {pfx : List Char} (hne : pfx ≠ []) (hid : ∀ c ∈ pfx, isIdChar c = true) (i : Nat) :
    WfTok (.bare (pfx ++ natDigits i)) :=
  ⟨List.append_ne_nil_of_left_ne_nil hne _, fun c hc => (List.mem_append.mp hc).elim (hid c) (natDigits_id i c)⟩

theorem wf_clusterName (i : Nat) : WfTok (.bare ("cluster_".toList ++ natDigits i)) :=
  wf_numbered (by decide +kernel) (by decide +kernel) i

theorem wf_ctorName (i : Nat) : WfTok (.bare ("constructor_".toList ++ natDigits i)) :=
  wf_numbered (by decide +kernel) (by decide +kernel) i

theorem wf_color (err : Nat) : WfTok (.bare (colorName err).toList) := by
  unfold colorName
  split <;> exact ⟨by decide +kernel, by decide +kernel⟩

theorem OkItems.nil {pb : Bool} : OkItems pb [] := trivial

theorem OkItems.ws {s : String} {rest : List Item} {pb : Bool} (hr : OkItems false rest)
    (h : (s.toList.all isWs && !s.toList.isEmpty) = true := by decide +kernel) : OkItems pb (W s :: rest) := by
  rw [Bool.and_eq_true, List.all_eq_true, Bool.not_eq_true'] at h
  refine ⟨h.1, ?_⟩
  rw [h.2, Bool.and_false]
  exact hr

theorem OkItems.tk {t : Tok} {rest : List Item} {pb : Bool} (hw : WfTok t) (hr : OkItems false rest)
    (hb : isBare t = false := by rfl) : OkItems pb (.tk t :: rest) :=
  ⟨hw, fun h => absurd (hb ▸ h) Bool.false_ne_true, hb ▸ hr⟩

theorem OkItems.p {t : Tok} {rest : List Item} {pb : Bool} (hr : OkItems false rest) (hw : WfTok t := by trivial)
    (hb : isBare t = false := by rfl) : OkItems pb (P t :: rest) :=
  .tk hw hr hb

theorem OkItems.id {s : List Char} {rest : List Item} (hw : WfTok (.bare s)) (hr : OkItems true rest) :
    OkItems false (.tk (.bare s) :: rest) := ⟨hw, fun _ => rfl, hr⟩

theorem OkItems.lit {s : String} {rest : List Item} (hr : OkItems true rest)
    (h : (!s.toList.isEmpty && s.toList.all isIdChar) = true := by decide +kernel) : OkItems false (B s :: rest) := by
  rw [Bool.and_eq_true, List.all_eq_true, Bool.not_eq_true', List.isEmpty_eq_false_iff] at h
  exact .id h hr

theorem OkItems.ite_nil {p : Prop} [Decidable p] {is : List Item} (h : OkItems true is) :
    OkItems true (if p then [] else is) := by
  split
  · exact .nil
  · exact h

-- from here on `OkItems` is used through its lemmas only: unfolded, the goals below are long conjunctions
attribute [local irreducible] OkItems

theorem ok_header : OkItems false header :=
  .lit <| .ws <| .p <| .ws <| .lit <| .p <| .lit <| .p <| .ws <| .lit <| .ws <| .p <| .lit <| .p <| .lit <| .p <| .p <| .ws .nil

section
variable (q : List Char → List Char) (hq : ∀ s, QClosed (q s))
include hq

theorem ok_groupItems (g : RGroup) : OkItems true (groupItems q g) := by
  refine .append _ _ _ (.append _ _ _ (.append _ _ _ (.append _ _ _ ?_ ?_) ?_) (.flatMap _ _ fun r _ => ?_)) (.ws .nil)
  · exact .ws <| .tk (hq _) <| .ws <| .p <| .lit <| .p <| .lit <| .ws <| .lit <| .p <| .tk (hclosed_groupBody _ _) .nil
  · exact .ite_nil <| .ws <| .lit <| .p <| .id (wf_color _) .nil
  · exact .p <| .p <| .ws .nil
  · exact .ws <| .tk (hq _) <| .ws <| .p <| .ws <| .tk (hq _) <| .p <| .ws .nil

theorem ok_resultItems (r : RResult) : OkItems true (resultItems q r) :=
  .ws <| .tk (hq _) <| .ws <| .p <| .lit <| .p <| .tk (hclosed_resultBody _ _ _) <| .p <| .p <| .ws .nil

theorem ok_paramItems (i : Nat) (p : RParam) : OkItems true (paramItems q i p) := by
  refine .append _ _ _ (.append _ _ _ ?_ ?_) (.p <| .p <| .ws .nil)
  · exact .ws <| .id (wf_ctorName i) <| .ws <| .p <| .ws <| .tk (hq _) <| .ws <| .p <| .lit <| .p <| .id (wf_clusterName i) .nil
  · split
    · exact .ws <| .lit <| .p <| .lit .nil
    · exact .nil

theorem ok_gparamItems (i : Nat) (g : List Char) : OkItems true (gparamItems q i g) :=
  .ws <| .id (wf_ctorName i) <| .ws <| .p <| .ws <| .tk (hq _) <| .ws <| .p <| .lit <| .p <| .id (wf_clusterName i) <|
    .p <| .p <| .ws .nil

theorem ok_ctorItems (i : Nat) (c : RCtor) : OkItems true (ctorItems q i c) := by
  refine .append _ _ _ (.append _ _ _ (.append _ _ _ (.append _ _ _ (.append _ _ _ (.append _ _ _ (.append _ _ _
    (.append _ _ _ (.append _ _ _ ?_ (.ws ?_)) ?_) (.ws ?_)) (.ws .nil)) (.flatMap _ _ fun r _ => ok_resultItems q hq r))
    (.ws <| .p <| .ws .nil)) (.flatMap _ _ fun p _ => ok_paramItems q hq i p)) (.ws .nil))
    (.flatMap _ _ fun g _ => ok_gparamItems q hq i g)
  · exact .ws <| .lit <| .ws <| .id (wf_clusterName i) <| .ws <| .p <| .ws .nil
  · split
    · exact .nil
    · exact .lit <| .ws <| .p <| .ws <| .tk (hq _) <| .p .nil
  · exact .ws <| .ws <| .id (wf_ctorName i) <| .ws <| .p <| .lit <| .p <| .lit <| .ws <| .lit <| .p <| .tk (hq _) <|
      .p <| .p <| .ws .nil
  · split
    · exact .nil
    · exact .lit <| .p <| .id (wf_color _) <| .p .nil

theorem ok_ctorsItems : ∀ (cs : List RCtor) (i : Nat), OkItems true (ctorsItems q i cs)
  | [], _ => .nil
  | c :: rest, i => .append _ _ _ (ok_ctorItems q hq i c) (ok_ctorsItems rest (i + 1))

theorem ok_failedItems (color : String) (hc : WfTok (.bare color.toList)) (f : List Char) :
    OkItems true (failedItems q color f) :=
  .ws <| .tk (hq _) <| .ws <| .p <| .lit <| .p <| .id hc <| .p <| .p <| .ws .nil

theorem ok_graphItems (g : RGraph) : OkItems false (graphItems q g) :=
  .append _ _ _ (.append _ _ _ (.append _ _ _ (.append _ _ _ (.append _ _ _ (.append _ _ _ ok_header
    (.flatMap _ _ fun x _ => ok_groupItems q hq x)) (.ws .nil)) (ok_ctorsItems q hq _ _))
    (.flatMap _ _ fun f _ => ok_failedItems q hq "orange" ⟨by decide +kernel, by decide +kernel⟩ f))
    (.flatMap _ _ fun f _ => ok_failedItems q hq "red" ⟨by decide +kernel, by decide +kernel⟩ f)) (.ws <| .p .nil)

theorem lex_render (g : RGraph) : lexDot (render q g) = some (toks (graphItems q g)) :=
  lexDot_items _ (ok_graphItems q hq g)

end

end Dig.DotRender
