import DigModel.Proofs.AvailEngine
import DigModel.Proofs.ReachApi
import DigModel.Proofs.RootCauseProgram
import DigModel.Proofs.AcycInv
import DigModel.Proofs.GhBoundApi
import DigModel.Proofs.Termination
/-
  `Invoke` on the container as it was when called: a "missing type" or "cycle" failure is real (`apiInvoke_real`),
  and an Invoke whose closure has every required dependency available and no dependency cycle, with no failing user
  function, succeeds (`apiInvoke_available`).
-/
namespace Dig

def InvokeClosure (st : St) (s : Nat) (params : List Param) (w : Who) : Prop := ∃ l ∈ leavesL params, Reach st s l w

def InvokeReq (s : Nat) (params : List Param) (c : Nat) (k : Key) : Prop := c = s ∧ k ∈ reqSinglesL params

theorem nodeParams_view {a b : St} (h : SameView a b) (w : Who) : nodeParams a w = nodeParams b w := by
  cases w with
  | ctor n => exact (h.ctor n).1
  | deco d => exact (h.deco d).1
  | invoked => rfl

theorem nodeView_view {a b : St} (h : SameView a b) (w : Who) : nodeView a w = nodeView b w := by
  cases w with
  | ctor n => exact (h.ctor n).2
  | deco d => exact (h.deco d).2
  | invoked => rfl

theorem below_view {a b : St} (h : SameView a b) {w w' : Who} (hb : Below a w w') : Below b w w' := by
  obtain ⟨l, hl, hr⟩ := hb
  refine ⟨l, by rw [← nodeParams_view h]; exact hl, ?_⟩
  rw [← nodeView_view h]
  exact reach_view h hr

theorem checkedFrom_view {a b : St} (h : SameView a b) {w : Who} {c : Nat} (hc : CheckedFrom a w c) : CheckedFrom b w c := by
  cases w with
  | ctor n => exact hc.trans (h.ctor n).2
  | deco d =>
    rcases hc with hc | ⟨k, hk⟩
    · exact Or.inl (hc.trans (h.deco d).2)
    · exact Or.inr ⟨k, by rw [← (h.scope c).1]; exact hk⟩
  | invoked => exact hc

theorem reqNode_view {a b : St} (h : SameView a b) {w : Who} {c : Nat} {k : Key} (hr : ReqNode a w c k) : ReqNode b w c k :=
  ⟨by rw [← nodeParams_view h]; exact hr.1, checkedFrom_view h hr.2⟩

theorem allProviders_view {a b : St} (h : SameView a b) (c : Nat) (k : Key) : a.allProviders c k = b.allProviders c k := by
  unfold St.allProviders
  rw [h.anc c]
  congr 1
  funext s
  rw [(h.scope s).2]

theorem InvokeClosure.view {a b : St} (h : SameView a b) {s : Nat} {params : List Param} {x : Who}
    (hx : InvokeClosure a s params x) : InvokeClosure b s params x :=
  let ⟨l, hl, hr⟩ := hx; ⟨l, hl, reach_view h hr⟩

theorem RealRoot.view {a b : St} (h : SameView a b) {T T' : Who → Prop} {D : Nat → Key → Prop} {r : DErr}
    (hr : RealRoot a T D r) (hT : ∀ w, T w → T' w) : RealRoot b T' D r where
  cyc p s he := by
    obtain ⟨w, hw, hb⟩ := hr.cyc p s he
    exact ⟨w, hT w hw, below_view h hb⟩
  mis ks he := by
    obtain ⟨hne, hall⟩ := hr.mis ks he
    refine ⟨hne, fun k hk => ?_⟩
    obtain ⟨c, hp, hd⟩ := hall k hk
    refine ⟨c, by rw [← allProviders_view h]; exact hp, ?_⟩
    rcases hd with hd | ⟨w, hw, hq⟩
    · exact Or.inl hd
    · exact Or.inr ⟨w, hT w hw, reqNode_view h hq⟩

theorem invokeRun_real (ctx : Ctx) (fn : Fn) (params : List Param) (s : Nat) (info : Bool) (w : St)
    (hidle : ∀ n, (w.ctor n).onStack = false) (e : DErr) (h : (invokeRun ctx fn params s info w).2.v = .err e) :
    RealRoot w (InvokeClosure w s params) (InvokeReq s params) e.rootCause := by
  have hstk : Stk w w (fun x => ∃ l ∈ leavesL params, Reach w s l x) := by
    intro m hm; rw [hidle m] at hm; cases hm
  have hb := wrapErr_sat (E := fun f _ => AvErr w (fun x => ∃ l ∈ leavesL params, Reach w s l x)
      (fun c' k' => c' = s ∧ k' ∈ reqSinglesL params) f)
    (avPost_iff.1 ((engine_avail ctx w (engineFuel w params)).2.2.2.2.2 params s w (RegFrame.refl w) hstk))
    fun _ _ h => h.2.wrap .argsFailed
  refine invokeRun_cases (P := fun x => ∀ e, x.2.v = .err e → RealRoot w _ _ e.rootCause) ?_ ?_ e h
  · intro f w4 hbl e he
    cases f with
    | err e' => cases Verdict.err.inj he; exact (hb.error hbl _ rfl).1
    | panic => nomatch he
    | bug => nomatch he
    | fuel => nomatch he
  · intro args w4 r w5 inf _ _ e he
    obtain ⟨x, rfl | rfl⟩ := callVerdict_err he <;> exact realRoot_other nofun nofun

/-- the provider loop of `paramSingle.Build` turns a failure of constructor `n` into the zero value of an optional
    parameter only if that failure is a "missing type": some required single key in the closure of `n` — of `n` itself
    or of a constructor or decorator reachable from it — has no constructor visible from where it is looked up -/
theorem optional_absorbs_real_missing (ctx : Ctx) (st0 : St) (fuel n : Nat) (st : St) (h0 : RegFrame st0 st)
    (hstk : Stk st0 st (ReachC st0 n (st0.ctor n).origS)) (env : TyEnv) (k : Key) (opt : Bool) (cid : Nat) (z : Val) (s2 : St)
    (h : providerStep env k opt cid (callCtor ctx fuel n (st0.ctor n).origS st) = (.ok (some z), s2)) :
    opt = true ∧ ∃ e ks, (callCtor ctx fuel n (st0.ctor n).origS st).1 = .error (.err e) ∧
      e.rootCause = .missingTypes ks ∧ ks ≠ [] ∧
      ∀ k' ∈ ks, ∃ c, st0.allProviders c k' = [] ∧ ∃ w, ReachC st0 n (st0.ctor n).origS w ∧ ReqNode st0 w c k' := by
  have hp := (engine_avail ctx st0 fuel).1 n st h0 hstk
  cases hr : callCtor ctx fuel n (st0.ctor n).origS st with
  | mk x s =>
    rw [hr] at h hp
    cases x with
    | ok u => simp [providerStep] at h
    | error f =>
      cases f with
      | err e =>
        simp only [providerStep] at h
        split at h
        · rename_i hc
          simp only [Bool.and_eq_true] at hc
          obtain ⟨hreal, hmd⟩ := hp.2.2 e rfl
          obtain ⟨ks, hks⟩ := hmd hc.1
          obtain ⟨hne, hall⟩ := hreal.mis ks hks
          refine ⟨hc.2, e, ks, rfl, hks, hne, fun k' hk' => ?_⟩
          obtain ⟨c, hpv, hd⟩ := hall k' hk'
          rcases hd with hd | hd
          · exact hd.elim
          · exact ⟨c, hpv, hd⟩
        · simp at h
      | panic f x => simp [providerStep] at h
      | bug => simp [providerStep] at h
      | fuel => simp [providerStep] at h

theorem apiInvoke_stages (ctx : Ctx) (fn : Fn) (st : St) (s : Nat) (info : Bool) (hnf : fn.nonfunc = none)
    (params : List Param) (w : St) (hpp : parseParams ctx.env st s fn = (.ok params, w)) :
    (∃ k ks, missingOfList w s params = k :: ks ∧
      (apiInvoke ctx fn st s info).2.v = .err (.missingDeps (.missingTypes (k :: ks)))) ∨
    (missingOfList w s params = [] ∧
      ((∃ v, invokeCheck w s = .error v ∧ (apiInvoke ctx fn st s info).2.v = v) ∨
       ∃ w3, invokeCheck w s = .ok w3 ∧ apiInvoke ctx fn st s info = invokeRun ctx fn params s info w3)) := by
  refine apiInvoke_cases (P := fun x => (∃ k ks, missingOfList w s params = k :: ks ∧
      x.2.v = .err (.missingDeps (.missingTypes (k :: ks)))) ∨ (missingOfList w s params = [] ∧
      ((∃ v, invokeCheck w s = .error v ∧ x.2.v = v) ∨ ∃ w3, invokeCheck w s = .ok w3 ∧ x = invokeRun ctx fn params s info w3)))
    (fun _ h => by rw [hnf] at h; cases h) (fun _ _ _ h => by rw [hpp] at h; cases h) ?_ ?_ ?_
  · intro _ _ _ k ks h hm; rw [hpp] at h; cases h; exact .inl ⟨k, ks, hm, rfl⟩
  · intro _ _ _ v h hm hck; rw [hpp] at h; cases h; exact .inr ⟨hm, .inl ⟨v, hck, rfl⟩⟩
  · intro _ _ _ w3 h hm hck; rw [hpp] at h; cases h; exact .inr ⟨hm, .inr ⟨w3, hck, rfl⟩⟩

theorem invokeCheck_view (w w3 : St) (s : Nat) (h : invokeCheck w s = .ok w3) :
    SameView w w3 ∧ w3.ctors = w.ctors ∧ w3.log = w.log := by
  rcases invokeCheck_ok h with rfl | ⟨_, rfl⟩
  · exact ⟨sameView_regFrame (RegFrame.refl _), rfl, rfl⟩
  · exact ⟨sameView_modVerified _ _ _, rfl, rfl⟩

/-- **a failure of Invoke is real** (see the head of `Avail.lean`) -/
theorem apiInvoke_real (ctx : Ctx) (fn : Fn) (st : St) (s : Nat) (info : Bool) (hnf : fn.nonfunc = none)
    (hidle : ∀ n, (st.ctor n).onStack = false)
    (params : List Param) (w : St) (hpp : parseParams ctx.env st s fn = (.ok params, w))
    (e : DErr) (h : (apiInvoke ctx fn st s info).2.v = .err e) :
    (∃ p, e = .invalid (.cycle p s) ∧ ∃ q, checkAcyclic w s = .cycle q) ∨
    RealRoot st (InvokeClosure st s params) (InvokeReq s params) e.rootCause := by
  have hg : GhOnly st w := by have := ghOnly_parseParams ctx.env st s fn; rw [hpp] at this; exact this
  have hview : SameView w st := (sameView_ghOnly hg).symm
  rcases apiInvoke_stages ctx fn st s info hnf params w hpp with ⟨k, ks, hm, hv⟩ | ⟨hm, ⟨v, hck, hv⟩ | ⟨w3, hck, hv⟩⟩
  · right
    rw [hv] at h
    simp only [Verdict.err.injEq] at h
    subst h
    have : RealRoot w (InvokeClosure w s params) (InvokeReq s params) (DErr.missingTypes (k :: ks)) := by
      constructor
      · intro p s' hh; cases hh
      · intro ks' hh
        simp only [DErr.missingTypes.injEq] at hh
        subst hh
        refine ⟨by simp, fun k' hk' => ?_⟩
        rw [← hm] at hk'
        obtain ⟨h1, h2⟩ := mem_missingOfList w s k' params hk'
        exact ⟨s, h2, Or.inl ⟨rfl, h1⟩⟩
    exact this.view hview fun _ => InvokeClosure.view hview
  · rw [hv] at h
    rcases invokeCheck_error w s v hck with ⟨p, hp, hq⟩ | hp
    · left
      rw [hp] at h
      simp only [Verdict.err.injEq] at h
      exact ⟨p, h.symm, hq⟩
    · rw [hp] at h; cases h
  · right
    obtain ⟨hv3, hc3, _⟩ := invokeCheck_view w w3 s hck
    have hidle3 : ∀ n, (w3.ctor n).onStack = false := by
      intro n
      have : w3.ctor n = st.ctor n := by simp [St.ctor, hc3, hg.ctors]
      rw [this]; exact hidle n
    rw [hv] at h
    have hr := invokeRun_real ctx fn params s info w3 hidle3 e h
    have hview3 : SameView w3 st := sameView_trans hv3.symm hview
    exact hr.view hview3 fun _ => InvokeClosure.view hview3

/-- Invoke answers `ok`, unless the acyclicity check of the scope's graph itself reports a cycle (or the model gives up,
    which whole programs never do: `C14_never_panics`, `C05_invoke_total`) -/
theorem apiInvoke_available (ctx : Ctx) (hok : AllOk ctx) (fn : Fn) (st : St) (s : Nat) (info : Bool) (hnf : fn.nonfunc = none)
    (hlog : st.log = []) (hidle : ∀ n, (st.ctor n).onStack = false)
    (params : List Param) (w : St) (hpp : parseParams ctx.env st s fn = (.ok params, w))
    (havail : ∀ c k, (InvokeReq s params c k ∨ ∃ x, InvokeClosure st s params x ∧ ReqNode st x c k) → st.allProviders c k ≠ [])
    (hnocyc : ∀ x, InvokeClosure st s params x → ¬ Below st x x) :
    (apiInvoke ctx fn st s info).2.v = .ok ∨ (apiInvoke ctx fn st s info).2.v = .panicDig ∨
    (apiInvoke ctx fn st s info).2.v = .fuel ∨
    ∃ p, (apiInvoke ctx fn st s info).2.v = .err (.invalid (.cycle p s)) ∧ ∃ q, checkAcyclic w s = .cycle q := by
  cases hv : (apiInvoke ctx fn st s info).2.v with
  | ok => exact Or.inl rfl
  | panicDig => exact Or.inr (Or.inl rfl)
  | fuel => exact Or.inr (Or.inr (Or.inl rfl))
  | badop =>
    exact absurd hv (apiInvoke_ne_badop ctx fn st s info)
  | panicUser f x =>
    exfalso
    have hg := apiInvoke_invGood ctx fn st s info hlog
    rw [hv] at hg
    have := hg.2.1
    rw [hok f x] at this
    cases this
  | err e =>
    rcases apiInvoke_real ctx fn st s info hnf hidle params w hpp e hv with ⟨p, hp, hq⟩ | hr
    · right; right; right
      exact ⟨p, by rw [hp], hq⟩
    · exfalso
      have hroot : EngRoot e := by
        rcases apiInvoke_stages ctx fn st s info hnf params w hpp with ⟨k, ks, _, h1⟩ | ⟨_, ⟨v, hck, h1⟩ | ⟨w3, _, h1⟩⟩
        · rw [h1] at hv
          simp only [Verdict.err.injEq] at hv
          subst hv
          exact Or.inl ⟨k :: ks, rfl⟩
        · rw [h1] at hv
          rcases invokeCheck_error w s v hck with ⟨p, hp, _⟩ | hp
          · rw [hp] at hv
            simp only [Verdict.err.injEq] at hv
            subst hv
            exact Or.inr ⟨p, s, rfl⟩
          · rw [hp] at hv; cases hv
        · rw [h1] at hv
          exact invokeRun_allOk ctx hok fn params s info w3 e hv
      rcases hroot with ⟨ks, hks⟩ | ⟨p, s', hc⟩
      · obtain ⟨hne, hall⟩ := hr.mis ks hks
        cases ks with
        | nil => exact hne rfl
        | cons k ks =>
          obtain ⟨c, hp, hd⟩ := hall k (by simp)
          exact havail c k hd hp
      · obtain ⟨x, hx, hb⟩ := hr.cyc p s' hc
        exact hnocyc x hx hb

end Dig
