import DigModel.Proofs.ApiShape
import DigModel.Api
/-
  The scope tree: parent and children fields describe the same tree, parents precede children; whoever has `a` on
  its path to the root is in the subtree of `a` (the direction Provide needs: every scope that can see a scope is
  reached by the walk over that scope's descendants).
-/
namespace Dig

theorem lt_of_getElem? {α : Type} {l : List α} {i : Nat} {a : α} (h : l[i]? = some a) : i < l.length :=
  let ⟨hi, _⟩ := List.getElem?_eq_some_iff.mp h; hi

theorem scope_of_getElem? {st : St} {c : Nat} {sc : ScopeSt} (h : st.scopes[c]? = some sc) :
    c < st.scopes.length ∧ st.scope c = sc :=
  ⟨lt_of_getElem? h, by unfold St.scope; rw [List.getD_eq_getElem?_getD, h]; rfl⟩

theorem getElem?_scope {st : St} {c : Nat} (hc : c < st.scopes.length) : st.scopes[c]? = some (st.scope c) := by
  unfold St.scope
  rw [List.getD_eq_getElem?_getD, List.getElem?_eq_getElem hc]; rfl

theorem mem_allProviders {st : St} {s : Nat} {k : Key} {m : Nat} :
    m ∈ st.allProviders s k ↔ ∃ a ∈ st.ancestors s, m ∈ agetL (st.scope a).providers k :=
  List.mem_flatMap

theorem mem_ancestorsAux_succ {scopes : List ScopeSt} {f s a : Nat} :
    a ∈ ancestorsAux scopes (f + 1) s ↔
      ∃ sc, scopes[s]? = some sc ∧ (a = s ∨ ∃ p, sc.parent = some p ∧ a ∈ ancestorsAux scopes f p) := by
  rw [ancestorsAux]
  cases scopes[s]? with
  | none => simp
  | some sc => cases hp : sc.parent <;> simp [hp]

theorem mem_subscopesAux_succ {scopes : List ScopeSt} {f a x : Nat} :
    x ∈ subscopesAux scopes (f + 1) a ↔
      ∃ sc, scopes[a]? = some sc ∧ (x = a ∨ ∃ c ∈ sc.children, x ∈ subscopesAux scopes f c) := by
  rw [subscopesAux]
  cases scopes[a]? <;> simp

theorem lt_of_mem_ancestorsAux {scopes : List ScopeSt} {f s a : Nat} (h : a ∈ ancestorsAux scopes f s) :
    a < scopes.length := by
  induction f generalizing s with
  | zero => cases h
  | succ f ih =>
    obtain ⟨sc, hs, rfl | ⟨p, _, hp⟩⟩ := mem_ancestorsAux_succ.mp h
    · exact lt_of_getElem? hs
    · exact ih hp

structure TreeInv (st : St) : Prop where
  up : ∀ c, c < st.scopes.length → ∀ p, (st.scope c).parent = some p → p < c ∧ c ∈ (st.scope p).children
  down : ∀ p, p < st.scopes.length → ∀ c ∈ (st.scope p).children, p < c ∧ c < st.scopes.length
  root : 0 < st.scopes.length ∧ ∀ c, c < st.scopes.length → ((st.scope c).parent = none ↔ c = 0)

theorem TreeInv.init : TreeInv ({} : St) where
  up c hc p hp := by
    have : c = 0 := by simp at hc; omega
    subst this; simp [St.scope] at hp
  down p hp c hc := by
    have : p = 0 := by simp at hp; omega
    subst this; simp [St.scope] at hc
  root := by
    refine ⟨by decide, ?_⟩
    intro c hc
    have : c = 0 := by simp at hc; omega
    subst this
    simp [St.scope]

theorem TreeInv.transfer {a b : St} (h : TreeInv a) (hl : b.scopes.length = a.scopes.length)
    (hs : ∀ j, (b.scope j).parent = (a.scope j).parent ∧ (b.scope j).children = (a.scope j).children) : TreeInv b where
  up c hc p hp := by
    rw [(hs c).1] at hp
    rw [(hs p).2]
    exact h.up c (by rw [← hl]; exact hc) p hp
  down p hp c hc := by
    rw [(hs p).2] at hc
    rw [hl]
    exact h.down p (by rw [← hl]; exact hp) c hc
  root := ⟨by rw [hl]; exact h.root.1, fun c hc => by rw [(hs c).1]; exact h.root.2 c (by rw [← hl]; exact hc)⟩

theorem mem_subscopesAux_self (scopes : List ScopeSt) (f a : Nat) (ha : a < scopes.length) :
    a ∈ subscopesAux scopes (f + 1) a :=
  mem_subscopesAux_succ.mpr ⟨_, List.getElem?_eq_getElem ha, .inl rfl⟩

theorem subscopesAux_mono (scopes : List ScopeSt) : ∀ (f a x : Nat), x ∈ subscopesAux scopes f a →
    x ∈ subscopesAux scopes (f + 1) a := by
  intro f
  induction f with
  | zero => intro a x h; cases h
  | succ f ih =>
    intro a x h
    rw [mem_subscopesAux_succ] at h ⊢
    obtain ⟨sc, hs, h⟩ := h
    exact ⟨sc, hs, h.imp id fun ⟨c, hc, hx⟩ => ⟨c, hc, ih c x hx⟩⟩

theorem subscopesAux_mono_le (scopes : List ScopeSt) (a x : Nat) : ∀ (f g : Nat), f ≤ g → x ∈ subscopesAux scopes f a →
    x ∈ subscopesAux scopes g a := by
  intro f g hfg
  induction hfg with
  | refl => exact id
  | step _ ih => intro h; exact subscopesAux_mono scopes _ a x (ih h)

theorem subscopesAux_child (scopes : List ScopeSt) : ∀ (f a p c : Nat) (psc : ScopeSt), p ∈ subscopesAux scopes f a →
    scopes[p]? = some psc → c ∈ psc.children → c < scopes.length → c ∈ subscopesAux scopes (f + 1) a := by
  intro f
  induction f with
  | zero => intro a p c psc h; cases h
  | succ f ih =>
    intro a p c psc h hp hc hcl
    rw [mem_subscopesAux_succ] at h ⊢
    obtain ⟨sc, hs, rfl | ⟨c', hc', hx⟩⟩ := h
    · obtain rfl : sc = psc := Option.some.inj (hs.symm.trans hp)
      exact ⟨sc, hs, .inr ⟨c, hc, mem_subscopesAux_self scopes f c hcl⟩⟩
    · exact ⟨sc, hs, .inr ⟨c', hc', ih c' p c psc hx hp hc hcl⟩⟩

/-- a scope that has `a` on its path to the root is found by the walk over `a`'s subtree, with as much fuel as its
    distance from `a` in indexes allows -/
theorem mem_subscopesAux_of_mem_ancestorsAux {st : St} (ht : TreeInv st) : ∀ (f s a : Nat), a ∈ ancestorsAux st.scopes f s →
    a ≤ s ∧ s < st.scopes.length ∧ s ∈ subscopesAux st.scopes (s - a + 1) a := by
  intro f
  induction f with
  | zero => intro s a h; cases h
  | succ f ih =>
    intro s a h
    obtain ⟨sc, hs, rfl | ⟨p, hp, h⟩⟩ := mem_ancestorsAux_succ.mp h
    · exact ⟨Nat.le_refl _, lt_of_getElem? hs, by rw [Nat.sub_self]; exact mem_subscopesAux_self _ 0 a (lt_of_getElem? hs)⟩
    · obtain ⟨hsl, e⟩ := scope_of_getElem? hs
      subst e
      obtain ⟨hlt, hc⟩ := ht.up s hsl p hp
      obtain ⟨h1, h2, h3⟩ := ih p a h
      exact ⟨by omega, hsl, subscopesAux_mono_le st.scopes a s _ _ (by omega)
        (subscopesAux_child st.scopes (p - a + 1) a p s _ h3 (getElem?_scope h2) hc hsl)⟩

theorem mem_subscopes_of_mem_ancestors {st : St} (ht : TreeInv st) {s a : Nat} (h : a ∈ st.ancestors s) :
    s ∈ st.subscopes a := by
  obtain ⟨h1, h2, h3⟩ := mem_subscopesAux_of_mem_ancestorsAux ht _ s a h
  exact subscopesAux_mono_le st.scopes a s _ _ (by omega) h3

theorem copyOrderFold_scopes (child parent : Nat) : ∀ (l : List GNode) (w : St),
    (l.foldl (copyOrder child parent) w).scopes = w.scopes := by
  intro l
  induction l with
  | nil => intro w; rfl
  | cons x xs ih => intro w; simp only [List.foldl_cons]; rw [ih]; cases x <;> rfl

theorem apiScope_scopes (st : St) (parent : Nat) :
    (apiScope st parent).scopes =
      (st.scopes ++ [({ parent := some parent, gh := (st.scope parent).gh } : ScopeSt)]).modify parent
        (fun x => { x with children := x.children ++ [st.scopes.length] }) := by
  unfold apiScope
  simp only
  rw [copyOrderFold_scopes]
  rfl

/-- the scopes after `Scope.Scope(name)` -/
theorem apiScope_scope (st : St) (parent : Nat) (hp : parent < st.scopes.length) :
    (apiScope st parent).scopes.length = st.scopes.length + 1 ∧
    ∀ j, (apiScope st parent).scope j =
      if j = st.scopes.length then ({ parent := some parent, gh := (st.scope parent).gh } : ScopeSt)
      else if j = parent then { st.scope parent with children := (st.scope parent).children ++ [st.scopes.length] }
      else st.scope j := by
  have hS := apiScope_scopes st parent
  generalize ({ parent := some parent, gh := (st.scope parent).gh } : ScopeSt) = c at hS ⊢
  refine ⟨by rw [hS]; simp, fun j => ?_⟩
  unfold St.scope
  rw [hS, getD_modify, getD_snoc, List.length_append, List.length_singleton]
  by_cases hjl : j = st.scopes.length
  · subst hjl
    simp [Nat.ne_of_lt hp]
  · by_cases hjp : j = parent
    · subst hjp; simp [hp, hjl, Nat.lt_succ_of_lt hp]
    · have : parent ≠ j := Ne.symm hjp
      by_cases hj : j < st.scopes.length
      · simp [*]
      · simp [*, List.getD_eq_getElem?_getD]

theorem apiScope_scope_old (st : St) (parent : Nat) (hp : parent < st.scopes.length) {j : Nat} (hj : j ≠ st.scopes.length) :
    ((apiScope st parent).scope j).parent = (st.scope j).parent ∧
    ((apiScope st parent).scope j).providers = (st.scope j).providers ∧
    ((apiScope st parent).scope j).gh = (st.scope j).gh := by
  rw [(apiScope_scope st parent hp).2, if_neg hj]
  split
  · rename_i h; subst h; exact ⟨rfl, rfl, rfl⟩
  · exact ⟨rfl, rfl, rfl⟩

theorem TreeInv.snoc {a b : St} (h : TreeInv a) {par : Nat} (hp : par < a.scopes.length)
    (hl : b.scopes.length = a.scopes.length + 1)
    (hnew : (b.scope a.scopes.length).parent = some par ∧ (b.scope a.scopes.length).children = [])
    (hold : ∀ j, j ≠ a.scopes.length → (b.scope j).parent = (a.scope j).parent ∧
      (b.scope j).children = if j = par then (a.scope j).children ++ [a.scopes.length] else (a.scope j).children) :
    TreeInv b := by
  have hlt : ∀ {c}, c < b.scopes.length → c ≠ a.scopes.length → c < a.scopes.length :=
    fun hc h1 => Nat.lt_of_le_of_ne (Nat.le_of_lt_succ (by rw [hl] at hc; exact hc)) h1
  refine ⟨fun c hc p hpar => ?_, fun p hpl c hc => ?_, hl ▸ Nat.succ_pos _, fun c hc => ?_⟩
  · by_cases h1 : c = a.scopes.length
    · subst h1
      obtain rfl : par = p := Option.some.inj (hnew.1.symm.trans hpar)
      exact ⟨hp, by rw [(hold par (Nat.ne_of_lt hp)).2, if_pos rfl]; exact List.mem_append_right _ List.mem_cons_self⟩
    · rw [(hold c h1).1] at hpar
      obtain ⟨a1, a2⟩ := h.up c (hlt hc h1) p hpar
      refine ⟨a1, ?_⟩
      rw [(hold p (Nat.ne_of_lt (Nat.lt_trans a1 (hlt hc h1)))).2]
      split
      · exact List.mem_append_left _ a2
      · exact a2
  · by_cases h1 : p = a.scopes.length
    · subst h1; rw [hnew.2] at hc; cases hc
    · have hd := h.down p (hlt hpl h1)
      rw [(hold p h1).2] at hc
      have hold' : c ∈ (a.scope p).children → p < c ∧ c < b.scopes.length :=
        fun hc => ⟨(hd c hc).1, hl ▸ Nat.lt_succ_of_lt (hd c hc).2⟩
      split at hc
      · rcases List.mem_append.mp hc with hc | hc
        · exact hold' hc
        · exact List.mem_singleton.mp hc ▸ ⟨hlt hpl h1, hl ▸ Nat.lt_succ_self _⟩
      · exact hold' hc
  · by_cases h1 : c = a.scopes.length
    · subst h1
      rw [hnew.1]
      exact ⟨nofun, fun hh => absurd (hh ▸ h.root.1) (Nat.lt_irrefl _)⟩
    · rw [(hold c h1).1]
      exact h.root.2 c (hlt hc h1)

theorem TreeInv.scope {st : St} (h : TreeInv st) (parent : Nat) (hp : parent < st.scopes.length) :
    TreeInv (apiScope st parent) := by
  obtain ⟨hlen, hsc⟩ := apiScope_scope st parent hp
  refine h.snoc hp hlen (by rw [hsc, if_pos rfl]; exact ⟨rfl, rfl⟩) fun j hj => ?_
  rw [hsc, if_neg hj]
  split
  · rename_i h2; subst h2; exact ⟨rfl, rfl⟩
  · exact ⟨rfl, rfl⟩

end Dig
