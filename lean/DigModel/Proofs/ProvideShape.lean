import DigModel.Proofs.NodeOrder
/-
  `apiProvide` with its stages named: *register* (validate, parse, append the node, put it into the graph holders,
  check the keys, enter it into the provider table) and *verify* (the acyclicity loop over the target scope and its
  descendants, then accept or roll back); definitionally the same function (`apiProvide_eq`).  What the first stage
  leaves behind is described once (`Registered`), and every outcome of `Provide` is the container it started from up
  to `isVerifiedAcyclic` flags, or a `Registered` one, with the new constructor entered into `nodes` when accepted.
-/
namespace Dig

/-- everything `Provide` does before the acyclicity loop.  `.error` = the call is over (rejected, rolled back);
    `.ok (target, params, results, n, w)` = constructor `n` is registered in container `w` -/
def provideRegister (ctx : Ctx) (fn : Fn) (st : St) (i s : Nat) (o : ProvideOpts) :
    Except (St × RegRes) (Nat × List Param × List RSlot × Nat × St) :=
  match fn.nonfunc with
  | some _ => .error (st, { v := .err .invalid0 })
  | none =>
  match validateOpts ctx.env o with
  | .error e => .error (st, { v := .err e })
  | .ok as =>
    let target := if o.export_ then St.root else s
    let scopes := st.subscopes target
    let reject (w : St) (e : DErr) : St × RegRes :=
      (rollbackProvide st w target scopes, { v := .err (.provide e) })
    match parseParams ctx.env st target fn with
    | (.error e, w) => .error (reject w e)
    | (.ok params, w) =>
      match newResultList ctx.env { name := o.name, group := o.group, as := as } fn with
      | .error e => .error (reject w e)
      | .ok results =>
        let n := w.ctors.length
        let node : CtorNode :=
          { fn := fn, params := params, results := results, s := target, origS := s,
            cb := if o.cb then some i else none }
        let w := { w with ctors := w.ctors ++ [node] }
        let w := w.newGraphNode target (.ctor n)
        match visitKeys (w.scope target) (slotResults results) [] with
        | .error e => .error (reject w e)
        | .ok [] => .error (reject w .invalid0)
        | .ok keys =>
          .ok (target, params, results, n, w.modScope target fun x =>
            { x with providers := keys.foldl (fun m k => aset m k (agetL m k ++ [n])) x.providers })

def provideVerify (ctx : Ctx) (fn : Fn) (st : St) (o : ProvideOpts) (target : Nat) (params : List Param)
    (results : List RSlot) (n : Nat) (w : St) : St × RegRes :=
  match verifyScopes ctx.cfg (st.subscopes target) w with
  | (.error (sc, .cycle p), w) =>
    (rollbackProvide st w target (st.subscopes target), { v := .err (.provide (.invalid (.cycle (cyclePath w sc p) sc))) })
  | (.error _, w) => (w, { v := .panicDig })
  | (.ok (), w) =>
    let w := w.modScope target fun x => { x with nodes := x.nodes ++ [n] }
    (w, { v := .ok,
          info := if o.info then
            some { id := fn.id, ins := dotParams params, outs := dotSlots results } else none })

def apiProvide' (ctx : Ctx) (fn : Fn) (st : St) (i s : Nat) (o : ProvideOpts) : St × RegRes :=
  match provideRegister ctx fn st i s o with
  | .error r => r
  | .ok (target, params, results, n, w) => provideVerify ctx fn st o target params results n w

theorem apiProvide_eq (ctx : Ctx) (fn : Fn) (st : St) (i s : Nat) (o : ProvideOpts) :
    apiProvide ctx fn st i s o = apiProvide' ctx fn st i s o := by
  unfold apiProvide apiProvide' provideRegister provideVerify
  cases fn.nonfunc with
  | some _ => rfl
  | none =>
    simp only
    cases validateOpts ctx.env o with
    | error e => rfl
    | ok as =>
      simp only
      cases parseParams ctx.env st (if o.export_ then St.root else s) fn with
      | mk r w =>
        cases r with
        | error e => rfl
        | ok params =>
          simp only
          cases newResultList ctx.env { name := o.name, group := o.group, as := as } fn with
          | error e => rfl
          | ok results =>
            simp only
            cases visitKeys ((St.newGraphNode { w with ctors := w.ctors ++ [_] } (if o.export_ then St.root else s) (.ctor w.ctors.length)).scope (if o.export_ then St.root else s)) (slotResults results) [] with
            | error e => rfl
            | ok keys =>
              cases keys with
              | nil => rfl
              | cons k0 ks => rfl

theorem newGraphNode_scopes (w : St) (s : Nat) (node : GNode) :
    ∀ j, ScopeButGh (w.scope j) ((w.newGraphNode s node).scope j) := by
  rw [newGraphNode_eq]
  generalize w.subscopes s = l
  induction l generalizing w with
  | nil => intro j; exact ScopeButGh.refl _
  | cons x xs ih =>
    intro j
    simp only [List.foldl_cons]
    refine ScopeButGh.trans ?_ (ih _ j)
    rw [ghStep_scope]
    split
    · exact ⟨rfl, rfl, rfl, rfl, rfl, rfl, rfl, rfl, rfl, rfl⟩
    · exact ScopeButGh.refl _

theorem newGraphNode_ctors (w : St) (s : Nat) (node : GNode) : (w.newGraphNode s node).ctors.length = w.ctors.length ∧
    ∀ j, ∃ o, (w.newGraphNode s node).ctor j = { w.ctor j with orders := o } := by
  rw [newGraphNode_eq]
  generalize w.subscopes s = l
  induction l generalizing w with
  | nil => exact ⟨rfl, fun j => ⟨_, rfl⟩⟩
  | cons x xs ih =>
    simp only [List.foldl_cons]
    obtain ⟨i1, i2⟩ := ih (ghStep node w x)
    have hs : (ghStep node w x).ctors.length = w.ctors.length ∧ ∀ j, ∃ o, (ghStep node w x).ctor j = { w.ctor j with orders := o } := by
      unfold ghStep
      cases node with
      | ctor n =>
        refine ⟨List.length_modify _ _ _, fun j => ?_⟩
        simp only
        rw [ctor_modCtor]
        split
        · exact ⟨_, rfl⟩
        · exact ⟨_, rfl⟩
      | pg i => exact ⟨rfl, fun j => ⟨_, rfl⟩⟩
    refine ⟨i1.trans hs.1, fun j => ?_⟩
    obtain ⟨o1, e1⟩ := hs.2 j
    obtain ⟨o2, e2⟩ := i2 j
    exact ⟨o2, by rw [e2, e1]⟩

theorem agetL_foldl_aset_append (n : Nat) : ∀ (keys : List Key) (m : List (Key × List Nat)) (k : Key),
    agetL (keys.foldl (fun m k => aset m k (agetL m k ++ [n])) m) k = agetL m k ++ List.replicate (keys.count k) n
  | [], m, k => by simp
  | k0 :: ks, m, k => by
    rw [List.foldl_cons, agetL_foldl_aset_append n ks, List.count_cons]
    unfold agetL
    rw [aget_aset]
    by_cases hk : k = k0
    · subst hk; simp [List.replicate_succ]
    · have : (k0 == k) = false := by simp; exact fun h => hk h.symm
      simp [hk, this]

theorem foldl_aset_append_mem (keys : List Key) (n : Nat) (m : List (Key × List Nat)) (k : Key) (x : Nat)
    (h : x ∈ agetL (keys.foldl (fun m k => aset m k (agetL m k ++ [n])) m) k) : x = n ∨ x ∈ agetL m k := by
  rw [agetL_foldl_aset_append] at h
  rcases List.mem_append.mp h with h | h
  · exact Or.inr h
  · exact Or.inl (List.mem_replicate.mp h).2

theorem foldl_append_key (keys : List Key) (n : Nat) (m : List (Key × List Nat)) (k : Key)
    (h : n ∈ agetL (keys.foldl (fun m k => aset m k (agetL m k ++ [n])) m) k) : k ∈ keys ∨ n ∈ agetL m k := by
  rw [agetL_foldl_aset_append] at h
  rcases List.mem_append.mp h with h | h
  · exact Or.inr h
  · exact Or.inl (List.count_pos_iff.mp (Nat.pos_of_ne_zero (List.mem_replicate.mp h).1))

/-- `w` is `st` after the registration stage of `Provide fn` on scope `s` -/
structure Registered (ctx : Ctx) (fn : Fn) (st : St) (i s : Nat) (o : ProvideOpts) (target : Nat) (params : List Param)
    (results : List RSlot) (keys : List Key) (w : St) : Prop where
  nonfunc : fn.nonfunc = none
  target_eq : target = if o.export_ then St.root else s
  parsed : (parseParams ctx.env st target fn).1 = .ok params
  built : ∃ as, validateOpts ctx.env o = .ok as ∧
    newResultList ctx.env { name := o.name, group := o.group, as := as } fn = .ok results
  -- the duplicate check runs on the scope as the parse and the new graph node have left it; it reads the providers only
  checked : ∃ X : ScopeSt, X.providers = (st.scope target).providers ∧ visitKeys X (slotResults results) [] = .ok keys
  nonempty : keys ≠ []
  work : Work st w target
  len : w.ctors.length = st.ctors.length + 1
  ctor : ∃ ord, w.ctor st.ctors.length =
    { fn := fn, params := params, results := results, s := target, origS := s, cb := if o.cb then some i else none,
      orders := ord }
  providers : target < st.scopes.length → (w.scope target).providers =
    keys.foldl (fun m k => aset m k (agetL m k ++ [st.ctors.length])) (st.scope target).providers

theorem provideRegister_cases (ctx : Ctx) (fn : Fn) (st : St) (i s : Nat) (o : ProvideOpts) (target : Nat)
    (htg : target = if o.export_ then St.root else s)
    {P : Except (St × RegRes) (Nat × List Param × List RSlot × Nat × St) → Prop}
    (hrefuse : ∀ e, P (.error (st, { v := .err e })))
    (hrej : ∀ w e, Work st w target →
      P (.error (rollbackProvide st w target (st.subscopes target), { v := .err (.provide e) })))
    (hok : ∀ as params w1 results w3 keys, fn.nonfunc = none → validateOpts ctx.env o = .ok as →
      parseParams ctx.env st target fn = (.ok params, w1) →
      newResultList ctx.env { name := o.name, group := o.group, as := as } fn = .ok results →
      w3 = St.newGraphNode { w1 with ctors := w1.ctors ++
        [{ fn := fn, params := params, results := results, s := target, origS := s, cb := if o.cb then some i else none }] }
        target (.ctor w1.ctors.length) →
      visitKeys (w3.scope target) (slotResults results) [] = .ok keys → keys ≠ [] →
      P (.ok (target, params, results, w1.ctors.length, w3.modScope target fun x =>
        { x with providers := keys.foldl (fun m k => aset m k (agetL m k ++ [w1.ctors.length])) x.providers }))) :
    P (provideRegister ctx fn st i s o) := by
  unfold provideRegister
  cases hnf : fn.nonfunc with
  | some _ => exact hrefuse _
  | none =>
    simp only
    cases hv : validateOpts ctx.env o with
    | error e => exact hrefuse _
    | ok as =>
      simp only
      rw [← htg]
      have hw1 := work_parseParams (Work.refl st target) ctx.env fn
      cases hpp : parseParams ctx.env st target fn with
      | mk r w1 =>
        rw [hpp] at hw1
        cases r with
        | error e => exact hrej _ _ hw1
        | ok params =>
          simp only
          cases hr : newResultList ctx.env { name := o.name, group := o.group, as := as } fn with
          | error e => exact hrej _ _ hw1
          | ok results =>
            simp only
            have hw3 := work_newGraphNode (work_addCtor hw1
              { fn := fn, params := params, results := results, s := target, origS := s, cb := if o.cb then some i else none })
              (.ctor w1.ctors.length) hw1.ctorsLen
            generalize hw3e : St.newGraphNode { w1 with ctors := w1.ctors ++ [_] } target (.ctor w1.ctors.length) = w3 at hw3 ⊢
            cases hvk : visitKeys (w3.scope target) (slotResults results) [] with
            | error e => exact hrej _ _ hw3
            | ok keys =>
              cases keys with
              | nil => exact hrej _ _ hw3
              | cons k0 ks => exact hok as params w1 results w3 (k0 :: ks) hnf hv hpp hr hw3e.symm hvk (fun h => nomatch h)

theorem provideRegister_ok_eq {ctx : Ctx} {fn : Fn} {st : St} {i s : Nat} {o : ProvideOpts} {target : Nat}
    {params : List Param} {results : List RSlot} {n : Nat} {w : St}
    (h : provideRegister ctx fn st i s o = .ok (target, params, results, n, w)) :
    ∃ as w1 w3 keys, fn.nonfunc = none ∧ validateOpts ctx.env o = .ok as ∧
      target = (if o.export_ then St.root else s) ∧ parseParams ctx.env st target fn = (.ok params, w1) ∧
      newResultList ctx.env { name := o.name, group := o.group, as := as } fn = .ok results ∧ n = w1.ctors.length ∧
      w3 = St.newGraphNode { w1 with ctors := w1.ctors ++
        [{ fn := fn, params := params, results := results, s := target, origS := s, cb := if o.cb then some i else none }] }
        target (.ctor n) ∧
      visitKeys (w3.scope target) (slotResults results) [] = .ok keys ∧ keys ≠ [] ∧
      w = w3.modScope target fun x =>
        { x with providers := keys.foldl (fun m k => aset m k (agetL m k ++ [n])) x.providers } := by
  revert h
  refine provideRegister_cases ctx fn st i s o _ rfl (P := fun x => x = .ok (target, params, results, n, w) → _) (fun _ h => nomatch h) (fun _ _ _ h => nomatch h) ?_
  intro as params' w1 results' w3 keys hnf hv hpp hr hw3 hvk hne h
  cases h
  exact ⟨as, w1, w3, keys, hnf, hv, rfl, hpp, hr, rfl, hw3, hvk, hne, rfl⟩

theorem provideRegister_ok {ctx : Ctx} {fn : Fn} {st : St} {i s : Nat} {o : ProvideOpts} {target : Nat}
    {params : List Param} {results : List RSlot} {n : Nat} {w : St}
    (h : provideRegister ctx fn st i s o = .ok (target, params, results, n, w)) :
    n = st.ctors.length ∧ ∃ keys, Registered ctx fn st i s o target params results keys w := by
  obtain ⟨as, w1, w3, keys, hnf, hv, htg, hpp, hr, rfl, hw3, hvk, hne, rfl⟩ := provideRegister_ok_eq h
  have hw1 := work_parseParams (Work.refl st target) ctx.env fn
  have hg1 := ghOnly_parseParams ctx.env st target fn
  rw [hpp] at hw1 hg1
  simp only at hw1 hg1
  have hlen1 : w1.ctors.length = st.ctors.length := by rw [hg1.ctors]
  generalize hnode : CtorNode.mk fn params results target s false false (if o.cb then some i else none) [] = node at hw3
  have hwk := work_newGraphNode (work_addCtor hw1 node) (.ctor w1.ctors.length)
    (by show st.ctors.length ≤ w1.ctors.length; exact hw1.ctorsLen)
  obtain ⟨hc1, hc2⟩ := newGraphNode_ctors { w1 with ctors := w1.ctors ++ [node] } target (.ctor w1.ctors.length)
  have hp3 := fun j => (newGraphNode_scopes { w1 with ctors := w1.ctors ++ [node] } target (.ctor w1.ctors.length) j).providers.symm.trans
    (hg1.scope j).providers.symm
  have hnode3 := hc2 st.ctors.length
  rw [show ({ w1 with ctors := w1.ctors ++ [node] } : St).ctor st.ctors.length = node by
    show (w1.ctors ++ [node]).getD st.ctors.length default = node
    rw [← hlen1, getD_snoc]; simp] at hnode3
  rw [← hw3] at hwk hc1 hp3 hnode3
  subst hnode
  refine ⟨hlen1, keys, hnf, htg, by rw [hpp], ⟨as, hv, hr⟩, ⟨w3.scope target, hp3 target, hvk⟩, hne,
    work_modScope_providersF hwk (List.foldl (fun m k => aset m k (agetL m k ++ [w1.ctors.length])) · keys),
    by show w3.ctors.length = _; rw [hc1]; simp [hlen1], hnode3, fun ht => ?_⟩
  rw [scope_modScope, if_pos ⟨rfl, by rw [hwk.len]; exact ht⟩]
  simp only [hp3 target, hlen1]

theorem provideRegister_error {ctx : Ctx} {fn : Fn} {st : St} {i s : Nat} {o : ProvideOpts} {r : St × RegRes}
    (h : provideRegister ctx fn st i s o = .error r) : EqButVerified st r.1 ∧ ∃ e, r.2 = { v := .err e } := by
  revert h
  exact provideRegister_cases ctx fn st i s o _ rfl (P := fun x => x = .error r → _) (fun e h => by cases h; exact ⟨eqV_refl st, e, rfl⟩)
    (fun w e hw h => by cases h; exact ⟨rollback_restores hw, _, rfl⟩) (fun _ _ _ _ _ _ _ _ _ _ _ _ _ h => nomatch h)
theorem Registered.eqV {ctx : Ctx} {fn : Fn} {st : St} {i s : Nat} {o : ProvideOpts} {target : Nat}
    {params : List Param} {results : List RSlot} {keys : List Key} {w w' : St}
    (h : Registered ctx fn st i s o target params results keys w) (he : EqButVerified w w') :
    Registered ctx fn st i s o target params results keys w' :=
  { h with
    work := h.work.eqV he
    len := by rw [← he.ctors]; exact h.len
    ctor := by unfold St.ctor; rw [← he.ctors]; exact h.ctor
    providers := fun ht => by rw [← (he.scope target).providers]; exact h.providers ht }

theorem Registered.providers_all {ctx : Ctx} {fn : Fn} {st : St} {i s : Nat} {o : ProvideOpts} {target : Nat}
    {params : List Param} {results : List RSlot} {keys : List Key} {w : St}
    (h : Registered ctx fn st i s o target params results keys w) (j : Nat) :
    (w.scope j).providers =
      if j = target ∧ target < st.scopes.length then
        keys.foldl (fun m k => aset m k (agetL m k ++ [st.ctors.length])) (st.scope target).providers
      else (st.scope j).providers := by
  by_cases hj : j = target
  · subst hj
    by_cases ht : j < st.scopes.length
    · rw [if_pos ⟨rfl, ht⟩]; exact h.providers ht
    · rw [if_neg fun hc => ht hc.2, scope_ge_len st j (by omega), scope_ge_len w j (by rw [h.work.len]; omega)]
  · rw [if_neg fun hc => hj hc.1]; exact h.work.providersOff hj

theorem apiProvide_stages (ctx : Ctx) (fn : Fn) (st : St) (i s : Nat) (o : ProvideOpts) {P : St × RegRes → Prop}
    (hrej : ∀ w e, EqButVerified st w → P (w, { v := .err e }))
    (hpanic : ∀ target params results n w0 w sc c,
      provideRegister ctx fn st i s o = .ok (target, params, results, n, w0) →
      verifyScopes ctx.cfg (st.subscopes target) w0 = (.error (sc, c), w) → (∀ p, c ≠ .cycle p) →
      P (w, { v := .panicDig }))
    (hok : ∀ target params results n w0 w, provideRegister ctx fn st i s o = .ok (target, params, results, n, w0) →
      verifyScopes ctx.cfg (st.subscopes target) w0 = (.ok (), w) →
      P (w.modScope target fun x => { x with nodes := x.nodes ++ [n] },
        { v := .ok, info := if o.info then
            some { id := fn.id, ins := dotParams params, outs := dotSlots results } else none })) :
    P (apiProvide ctx fn st i s o) := by
  rw [apiProvide_eq]
  unfold apiProvide'
  cases hreg : provideRegister ctx fn st i s o with
  | error r =>
    obtain ⟨h1, e, h2⟩ := provideRegister_error hreg
    have := hrej r.1 e h1
    rw [← h2] at this
    exact this
  | ok t =>
    obtain ⟨target, params, results, n, w⟩ := t
    simp only
    unfold provideVerify
    cases hvs : verifyScopes ctx.cfg (st.subscopes target) w with
    | mk r5 w5 =>
      cases r5 with
      | ok u => exact hok target params results n w w5 hreg hvs
      | error ec =>
        obtain ⟨sc, cr⟩ := ec
        cases cr with
        | cycle p =>
          obtain ⟨_, _, hr⟩ := provideRegister_ok hreg
          have h5 := hr.work.eqV (verifyScopes_eqV ctx.cfg (st.subscopes target) w)
          rw [hvs] at h5
          exact hrej _ _ (rollback_restores h5)
        | acyclic => exact hpanic target params results n w w5 sc _ hreg hvs nofun
        | outOfRange => exact hpanic target params results n w w5 sc _ hreg hvs nofun
        | fuel => exact hpanic target params results n w w5 sc _ hreg hvs nofun

theorem apiProvide_cases (ctx : Ctx) (fn : Fn) (st : St) (i s : Nat) (o : ProvideOpts) {P : St × RegRes → Prop}
    (hrej : ∀ w e, EqButVerified st w → P (w, { v := .err e }))
    (hpanic : ∀ target params results keys w, Registered ctx fn st i s o target params results keys w →
      P (w, { v := .panicDig }))
    (hok : ∀ target params results keys w, Registered ctx fn st i s o target params results keys w →
      P (w.modScope target fun x => { x with nodes := x.nodes ++ [st.ctors.length] },
        { v := .ok, info := if o.info then
            some { id := fn.id, ins := dotParams params, outs := dotSlots results } else none })) :
    P (apiProvide ctx fn st i s o) := by
  have hr : ∀ {target params results n w0 r w}, provideRegister ctx fn st i s o = .ok (target, params, results, n, w0) →
      verifyScopes ctx.cfg (st.subscopes target) w0 = (r, w) →
      n = st.ctors.length ∧ ∃ keys, Registered ctx fn st i s o target params results keys w := by
    intro target params results n w0 r w hreg hvs
    obtain ⟨hn, keys, hr⟩ := provideRegister_ok hreg
    have h5 := hr.eqV (verifyScopes_eqV ctx.cfg (st.subscopes target) w0)
    rw [hvs] at h5
    exact ⟨hn, keys, h5⟩
  refine apiProvide_stages ctx fn st i s o hrej ?_ ?_
  · intro target params results n w0 w sc c hreg hvs _
    obtain ⟨_, keys, h5⟩ := hr hreg hvs
    exact hpanic target params results keys w h5
  · intro target params results n w0 w hreg hvs
    obtain ⟨rfl, keys, h5⟩ := hr hreg hvs
    exact hok target params results keys w h5

theorem apiProvide_inv {I : St → Prop} {ctx : Ctx} {fn : Fn} {st : St} {i s : Nat} {o : ProvideOpts}
    (hrej : ∀ w, EqButVerified st w → I w)
    (hreg : ∀ target params results n w, provideRegister ctx fn st i s o = .ok (target, params, results, n, w) → I w)
    (hver : ∀ w l, I w → I (verifyScopes ctx.cfg l w).2)
    (hnodes : ∀ w target n, I w → I (w.modScope target fun x => { x with nodes := x.nodes ++ [n] })) :
    I (apiProvide ctx fn st i s o).1 := by
  have h5 : ∀ {target params results n w0 r w}, provideRegister ctx fn st i s o = .ok (target, params, results, n, w0) →
      verifyScopes ctx.cfg (st.subscopes target) w0 = (r, w) → I w := by
    intro target params results n w0 r w hr hvs
    have := hver w0 (st.subscopes target) (hreg _ _ _ _ _ hr)
    rw [hvs] at this
    exact this
  exact apiProvide_stages ctx fn st i s o (P := fun x => I x.1) (fun w _ => hrej w)
    (fun _ _ _ _ _ _ _ _ hr hvs _ => h5 hr hvs) (fun _ _ _ _ _ _ hr hvs => hnodes _ _ _ (h5 hr hvs))

theorem apiProvide_work (ctx : Ctx) (fn : Fn) (st : St) (i s : Nat) (o : ProvideOpts) :
    EqButVerified st (apiProvide ctx fn st i s o).1 ∨
    ∃ target w, Work st w target ∧
      ((apiProvide ctx fn st i s o).1 = w ∨
       ∃ n, (apiProvide ctx fn st i s o).1 = w.modScope target fun x => { x with nodes := x.nodes ++ [n] }) :=
  apiProvide_cases ctx fn st i s o (P := fun x => EqButVerified st x.1 ∨ ∃ target w, Work st w target ∧
      (x.1 = w ∨ ∃ n, x.1 = w.modScope target fun x => { x with nodes := x.nodes ++ [n] }))
    (fun _ _ h => Or.inl h) (fun target _ _ _ w h => Or.inr ⟨target, w, h.work, Or.inl rfl⟩)
    (fun target _ _ _ w h => Or.inr ⟨target, w, h.work, Or.inr ⟨_, rfl⟩⟩)

theorem apiProvide_res_cases {ctx : Ctx} {fn : Fn} {st : St} {i s : Nat} {o : ProvideOpts} {P : RegRes → Prop}
    (hrej : ∀ e, P { v := .err e }) (hpanic : P { v := .panicDig })
    (hok : ∀ as params w results, validateOpts ctx.env o = .ok as →
      parseParams ctx.env st (if o.export_ then St.root else s) fn = (.ok params, w) →
      newResultList ctx.env { name := o.name, group := o.group, as := as } fn = .ok results →
      P { v := .ok, info := if o.info then some { id := fn.id, ins := dotParams params, outs := dotSlots results } else none }) :
    P (apiProvide ctx fn st i s o).2 :=
  apiProvide_cases ctx fn st i s o (P := fun x => P x.2) (fun _ e _ => hrej e) (fun _ _ _ _ _ _ => hpanic)
    fun target params results _ _ hr => by
      obtain ⟨as, hv, hres⟩ := hr.built
      have hp := hr.parsed
      rw [hr.target_eq] at hp
      exact hok as params _ results hv (Prod.ext hp rfl) hres

theorem apiDecorate_inv {I : St → Prop} {ctx : Ctx} {fn : Fn} {st : St} {i s : Nat} {cb info : Bool} (h : I st)
    (hparse : I (parseParams ctx.env st s fn).2)
    (hreg : ∀ w d (F : List (Key × Nat) → List (Key × Nat)), I w →
      I (St.modScope { w with decos := w.decos ++ [d] } s fun x => { x with decorators := F x.decorators })) :
    I (apiDecorate ctx fn st i s cb info).1 :=
  apiDecorate_cases ctx fn st i s cb info (P := fun x => I x.1) (fun _ => h)
    fun _ _ keys w hpp _ _ _ _ => hreg w _ (keys.foldl (fun m k => aset m k w.decos.length) ·) (by rw [hpp] at hparse; exact hparse)

end Dig
