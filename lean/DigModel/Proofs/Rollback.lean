import DigModel.Proofs.Parse
import DigModel.Proofs.Scopes
/-
  A rejected Provide restores the container: everything the attempt did (group-parameter nodes, the
  constructor node, its graph nodes and orders, the provider entries) is undone by `rollbackProvide`,
  except the `isVerifiedAcyclic` flags.  With the roll-back of the parse understood (`parse_rollback_eq`), what
  Decorate and Invoke return is stated by cases at the end of the file (`apiDecorate_cases`, `apiInvoke_inv`).
-/
namespace Dig

def ScopeButVerified (a b : ScopeSt) : Prop :=
  a.parent = b.parent ∧ a.children = b.children ∧ a.providers = b.providers ∧ a.decorators = b.decorators ∧
  a.values = b.values ∧ a.decoratedValues = b.decoratedValues ∧ a.groups = b.groups ∧
  a.decoratedGroups = b.decoratedGroups ∧ a.nodes = b.nodes ∧ a.gh = b.gh

/-- equal up to the `isVerifiedAcyclic` flags -/
def EqButVerified (a b : St) : Prop :=
  a.ctors = b.ctors ∧ a.decos = b.decos ∧ a.pgs = b.pgs ∧ a.execs = b.execs ∧ a.clock = b.clock ∧ a.log = b.log ∧
  a.hist = b.hist ∧ a.scopes.length = b.scopes.length ∧ ∀ j, ScopeButVerified (a.scope j) (b.scope j)

section
variable {a b : St} {x y : ScopeSt}
theorem EqButVerified.ctors (h : EqButVerified a b) : a.ctors = b.ctors := h.1
theorem EqButVerified.decos (h : EqButVerified a b) : a.decos = b.decos := h.2.1
theorem EqButVerified.execs (h : EqButVerified a b) : a.execs = b.execs := h.2.2.2.1
theorem EqButVerified.hist (h : EqButVerified a b) : a.hist = b.hist := h.2.2.2.2.2.2.1
theorem EqButVerified.scopesLen (h : EqButVerified a b) : a.scopes.length = b.scopes.length := h.2.2.2.2.2.2.2.1
theorem EqButVerified.scope (h : EqButVerified a b) (j : Nat) : ScopeButVerified (a.scope j) (b.scope j) :=
  h.2.2.2.2.2.2.2.2 j
theorem ScopeButVerified.providers (h : ScopeButVerified x y) : x.providers = y.providers := h.2.2.1
theorem ScopeButVerified.decorators (h : ScopeButVerified x y) : x.decorators = y.decorators := h.2.2.2.1
end

/-- what an attempt to provide into `target` may have done to the container so far -/
structure Work (st w : St) (target : Nat) : Prop where
  decos : w.decos = st.decos
  execs : w.execs = st.execs
  clock : w.clock = st.clock
  log : w.log = st.log
  hist : w.hist = st.hist
  len : w.scopes.length = st.scopes.length
  ctorsLen : st.ctors.length ≤ w.ctors.length
  ctorsPre : w.ctors.take st.ctors.length = st.ctors
  pgsLen : st.pgs.length ≤ w.pgs.length
  pgsPre : w.pgs.take st.pgs.length = st.pgs
  scope : ∀ j, (w.scope j).parent = (st.scope j).parent ∧ (w.scope j).children = (st.scope j).children ∧
    (w.scope j).decorators = (st.scope j).decorators ∧ (w.scope j).values = (st.scope j).values ∧
    (w.scope j).decoratedValues = (st.scope j).decoratedValues ∧ (w.scope j).groups = (st.scope j).groups ∧
    (w.scope j).decoratedGroups = (st.scope j).decoratedGroups ∧ (w.scope j).nodes = (st.scope j).nodes ∧
    (j ≠ target → (w.scope j).providers = (st.scope j).providers) ∧
    (st.scope j).gh.length ≤ (w.scope j).gh.length ∧
    (w.scope j).gh.take (st.scope j).gh.length = (st.scope j).gh ∧
    (j ∉ st.subscopes target → (w.scope j).gh = (st.scope j).gh)

section
variable {st w : St} {target : Nat}
theorem Work.parent (h : Work st w target) (j : Nat) : (w.scope j).parent = (st.scope j).parent := (h.scope j).1
theorem Work.children (h : Work st w target) (j : Nat) : (w.scope j).children = (st.scope j).children := (h.scope j).2.1
theorem Work.decorators (h : Work st w target) (j : Nat) : (w.scope j).decorators = (st.scope j).decorators :=
  (h.scope j).2.2.1
theorem Work.values (h : Work st w target) (j : Nat) : (w.scope j).values = (st.scope j).values := (h.scope j).2.2.2.1
theorem Work.decoratedValues (h : Work st w target) (j : Nat) :
    (w.scope j).decoratedValues = (st.scope j).decoratedValues := (h.scope j).2.2.2.2.1
theorem Work.groups (h : Work st w target) (j : Nat) : (w.scope j).groups = (st.scope j).groups :=
  (h.scope j).2.2.2.2.2.1
theorem Work.decoratedGroups (h : Work st w target) (j : Nat) :
    (w.scope j).decoratedGroups = (st.scope j).decoratedGroups := (h.scope j).2.2.2.2.2.2.1
theorem Work.providersOff (h : Work st w target) {j : Nat} (hj : j ≠ target) :
    (w.scope j).providers = (st.scope j).providers := (h.scope j).2.2.2.2.2.2.2.2.1 hj
theorem Work.ghOut (h : Work st w target) {j : Nat} (hj : j ∉ st.subscopes target) : (w.scope j).gh = (st.scope j).gh :=
  (h.scope j).2.2.2.2.2.2.2.2.2.2.2 hj
end

theorem Work.refl (st : St) (target : Nat) : Work st st target where
  decos := rfl
  execs := rfl
  clock := rfl
  log := rfl
  hist := rfl
  len := rfl
  ctorsLen := Nat.le_refl _
  ctorsPre := by simp
  pgsLen := Nat.le_refl _
  pgsPre := by simp
  scope j := ⟨rfl, rfl, rfl, rfl, rfl, rfl, rfl, rfl, fun _ => rfl, Nat.le_refl _, by simp, fun _ => rfl⟩

theorem Work.subscopes {st w : St} {target : Nat} (h : Work st w target) : w.subscopes target = st.subscopes target :=
  subscopes_congr h.len h.children target

theorem eqV_refl (a : St) : EqButVerified a a :=
  ⟨rfl, rfl, rfl, rfl, rfl, rfl, rfl, rfl, fun _ => ⟨rfl, rfl, rfl, rfl, rfl, rfl, rfl, rfl, rfl, rfl⟩⟩

theorem EqButVerified.symm' {a b : St} (h : EqButVerified a b) : EqButVerified b a := by
  obtain ⟨h1, h2, h3, h4, h5, h6, h7, h8, h9⟩ := h
  exact ⟨h1.symm, h2.symm, h3.symm, h4.symm, h5.symm, h6.symm, h7.symm, h8.symm, fun j => by
    obtain ⟨q1, q2, q3, q4, q5, q6, q7, q8, q9, q10⟩ := h9 j
    exact ⟨q1.symm, q2.symm, q3.symm, q4.symm, q5.symm, q6.symm, q7.symm, q8.symm, q9.symm, q10.symm⟩⟩

theorem EqButVerified.trans' {a b c : St} (h : EqButVerified a b) (h' : EqButVerified b c) : EqButVerified a c := by
  obtain ⟨h1, h2, h3, h4, h5, h6, h7, h8, h9⟩ := h
  obtain ⟨k1, k2, k3, k4, k5, k6, k7, k8, k9⟩ := h'
  exact ⟨h1.trans k1, h2.trans k2, h3.trans k3, h4.trans k4, h5.trans k5, h6.trans k6, h7.trans k7, h8.trans k8, fun j => by
    obtain ⟨q1, q2, q3, q4, q5, q6, q7, q8, q9, q10⟩ := h9 j
    obtain ⟨r1, r2, r3, r4, r5, r6, r7, r8, r9, r10⟩ := k9 j
    exact ⟨q1.trans r1, q2.trans r2, q3.trans r3, q4.trans r4, q5.trans r5, q6.trans r6, q7.trans r7, q8.trans r8,
      q9.trans r9, q10.trans r10⟩⟩

theorem Work.eqV {st w w' : St} {target : Nat} (h : Work st w target) (he : EqButVerified w w') : Work st w' target := by
  obtain ⟨e1, e2, e3, e4, e5, e6, e7, e8, e9⟩ := he
  refine ⟨by rw [← e2]; exact h.decos, by rw [← e4]; exact h.execs, by rw [← e5]; exact h.clock, by rw [← e6]; exact h.log,
    by rw [← e7]; exact h.hist, by rw [← e8]; exact h.len, by rw [← e1]; exact h.ctorsLen, by rw [← e1]; exact h.ctorsPre,
    by rw [← e3]; exact h.pgsLen, by rw [← e3]; exact h.pgsPre, fun j => ?_⟩
  obtain ⟨q1, q2, q3, q4, q5, q6, q7, q8, q9, q10⟩ := e9 j
  have := h.scope j
  rw [q1, q2, q3, q4, q5, q6, q7, q8, q9, q10] at this
  exact this

/-- one step of `newGraphNode` -/
def ghStep (node : GNode) (st : St) (sc : Nat) : St :=
  let o := (st.scope sc).gh.length
  let st := st.modScope sc fun x => { x with gh := x.gh ++ [node] }
  match node with
  | .ctor n => st.modCtor n fun c => { c with orders := setOrder c.orders sc o }
  | .pg i => { st with pgs := st.pgs.modify i fun p => { p with orders := setOrder p.orders sc o } }

theorem newGraphNode_eq (st : St) (s : Nat) (node : GNode) :
    st.newGraphNode s node = (st.subscopes s).foldl (ghStep node) st := rfl

def NodeFresh (st : St) : GNode → Prop
  | .ctor n => st.ctors.length ≤ n
  | .pg i => st.pgs.length ≤ i

theorem work_ghAppend {st w : St} {target : Nat} (h : Work st w target) (node : GNode) (sc : Nat)
    (hsc : sc ∈ st.subscopes target) : Work st (w.modScope sc fun x => { x with gh := x.gh ++ [node] }) target := by
  refine { h with len := (List.length_modify ..).trans h.len, scope := fun j => ?_ }
  obtain ⟨a1, a2, a3, a4, a5, a6, a7, a8, a9, a10, a11, a12⟩ := h.scope j
  rw [scope_modScope]
  split
  · obtain ⟨rfl, _⟩ := ‹sc = j ∧ _›
    exact ⟨a1, a2, a3, a4, a5, a6, a7, a8, a9, Nat.le_trans a10 (List.length_append ▸ Nat.le_add_right ..),
      (List.take_append_of_le_length a10).trans a11, fun hn => absurd hsc hn⟩
  · exact ⟨a1, a2, a3, a4, a5, a6, a7, a8, a9, a10, a11, a12⟩

theorem work_modCtor {st w : St} {target : Nat} (h : Work st w target) (n : Nat) (hn : st.ctors.length ≤ n)
    (f : CtorNode → CtorNode) : Work st (w.modCtor n f) target :=
  { h with
    ctorsLen := (List.length_modify ..).symm ▸ h.ctorsLen
    ctorsPre := (take_modify_ge _ _ _ _ hn).trans h.ctorsPre }

theorem work_modPg {st w : St} {target : Nat} (h : Work st w target) (i : Nat) (hi : st.pgs.length ≤ i)
    (f : PGNode → PGNode) : Work st { w with pgs := w.pgs.modify i f } target :=
  { h with
    pgsLen := (List.length_modify ..).symm ▸ h.pgsLen
    pgsPre := (take_modify_ge _ _ _ _ hi).trans h.pgsPre }

theorem work_ghStep {st w : St} {target : Nat} (h : Work st w target) (node : GNode) (hf : NodeFresh st node)
    (sc : Nat) (hsc : sc ∈ st.subscopes target) : Work st (ghStep node w sc) target := by
  have h1 := work_ghAppend h node sc hsc
  cases node with
  | ctor n => exact work_modCtor h1 n hf _
  | pg i => exact work_modPg h1 i hf _

theorem work_foldl_ghStep {st : St} {target : Nat} (node : GNode) (hf : NodeFresh st node) (l : List Nat)
    (hl : ∀ sc ∈ l, sc ∈ st.subscopes target) : ∀ w, Work st w target → Work st (l.foldl (ghStep node) w) target := by
  induction l with
  | nil => intro w h; exact h
  | cons x xs ih =>
    intro w h
    simp only [List.foldl_cons]
    exact ih (fun sc hsc => hl sc (by simp [hsc])) _ (work_ghStep h node hf x (hl x (by simp)))

theorem work_newGraphNode {st w : St} {target : Nat} (h : Work st w target) (node : GNode) (hf : NodeFresh st node) :
    Work st (w.newGraphNode target node) target := by
  rw [newGraphNode_eq, h.subscopes]
  exact work_foldl_ghStep node hf _ (fun _ hsc => hsc) w h

theorem work_addPGNodes {st w : St} {target : Nat} (h : Work st w target) (oldLen : Nat) (hol : st.pgs.length ≤ oldLen)
    (descs : List PGDesc) : Work st (addPGNodes w target oldLen descs) target := by
  unfold addPGNodes
  simp only
  have h0 : Work st { w with pgs := w.pgs ++ List.map (fun d => ({ desc := d } : PGNode)) (List.drop oldLen descs) } target :=
    { h with
      pgsLen := by simp only [List.length_append]; have := h.pgsLen; omega
      pgsPre := by simp only; rw [List.take_append_of_le_length h.pgsLen]; exact h.pgsPre }
  generalize ({ w with pgs := w.pgs ++ List.map (fun d => ({ desc := d } : PGNode)) (List.drop oldLen descs) } : St) = w1 at h0
  generalize (List.range (descs.length - oldLen)) = l
  induction l generalizing w1 with
  | nil => exact h0
  | cons x xs ih =>
    simp only [List.foldl_cons]
    exact ih _ (work_newGraphNode h0 (.pg (oldLen + x)) (by show st.pgs.length ≤ oldLen + x; omega))

theorem work_parseParams {st w : St} {target : Nat} (h : Work st w target) (env : TyEnv) (fn : Fn) :
    Work st (parseParams env w target fn).2 target := by
  unfold parseParams
  simp only
  exact work_addPGNodes h _ (by simp; exact h.pgsLen) _

theorem work_addCtor {st w : St} {target : Nat} (h : Work st w target) (node : CtorNode) :
    Work st { w with ctors := w.ctors ++ [node] } target :=
  { h with
    ctorsLen := by simp only [List.length_append]; have := h.ctorsLen; omega
    ctorsPre := by simp only; rw [List.take_append_of_le_length h.ctorsLen]; exact h.ctorsPre }

theorem work_modScope_providersF {st w : St} {target : Nat} (h : Work st w target)
    (F : List (Key × List Nat) → List (Key × List Nat)) :
    Work st (w.modScope target fun x => { x with providers := F x.providers }) target := by
  refine { h with len := by simp [St.modScope]; exact h.len, scope := ?_ }
  intro j
  obtain ⟨a1, a2, a3, a4, a5, a6, a7, a8, a9, a10, a11, a12⟩ := h.scope j
  rw [scope_modScope]
  by_cases hc : target = j ∧ j < w.scopes.length
  · rw [if_pos hc]
    obtain ⟨rfl, _⟩ := hc
    exact ⟨a1, a2, a3, a4, a5, a6, a7, a8, fun hn => absurd rfl hn, a10, a11, a12⟩
  · rw [if_neg hc]
    exact ⟨a1, a2, a3, a4, a5, a6, a7, a8, a9, a10, a11, a12⟩

theorem eqV_modFlag (b : Bool) (v : St) (sc : Nat) :
    EqButVerified v (v.modScope sc fun x => { x with verified := b }) := by
  refine ⟨rfl, rfl, rfl, rfl, rfl, rfl, rfl, (List.length_modify ..).symm, fun j => ?_⟩
  rw [scope_modScope]
  split <;> exact ⟨rfl, rfl, rfl, rfl, rfl, rfl, rfl, rfl, rfl, rfl⟩

theorem verifyScopes_eqV (cfg : Cfg) : ∀ (l : List Nat) (w : St), EqButVerified w (verifyScopes cfg l w).2 := by
  intro l
  induction l with
  | nil => exact eqV_refl
  | cons sc rest ih =>
    intro w
    rw [verifyScopes]
    split
    · exact (eqV_modFlag false w sc).trans' (ih _)
    · split
      · exact ((eqV_modFlag false w sc).trans' (eqV_modFlag true _ sc)).trans' (ih _)
      · exact eqV_modFlag false w sc

theorem work_verifyScopes {st : St} {target : Nat} (cfg : Cfg) (l : List Nat) (w : St) (h : Work st w target) :
    Work st (verifyScopes cfg l w).2 target :=
  h.eqV (verifyScopes_eqV cfg l w)

/-- a fold of scope updates writes the scope table only -/
theorem foldl_modScope (f : Nat → ScopeSt → ScopeSt) (l : List Nat) (w : St) :
    l.foldl (fun w sc => w.modScope sc (f sc)) w =
      { w with scopes := (l.foldl (fun w sc => w.modScope sc (f sc)) w).scopes } := by
  induction l generalizing w with
  | nil => rfl
  | cons x xs ih => rw [List.foldl_cons, ih]; rfl

theorem length_foldl_modScope (f : Nat → ScopeSt → ScopeSt) (l : List Nat) (w : St) :
    (l.foldl (fun w sc => w.modScope sc (f sc)) w).scopes.length = w.scopes.length := by
  induction l generalizing w with
  | nil => rfl
  | cons x xs ih => rw [List.foldl_cons, ih]; exact List.length_modify ..

/-- updates that do nothing the second time: a scope is updated once if it is listed at all -/
theorem scope_foldl_modScope (f : Nat → ScopeSt → ScopeSt) (hf : ∀ i x, f i (f i x) = f i x) (l : List Nat) (w : St)
    (j : Nat) : (l.foldl (fun w sc => w.modScope sc (f sc)) w).scope j =
      if j ∈ l ∧ j < w.scopes.length then f j (w.scope j) else w.scope j := by
  induction l generalizing w with
  | nil => simp
  | cons x xs ih =>
    have hl : (w.modScope x (f x)).scopes.length = w.scopes.length := List.length_modify ..
    rw [List.foldl_cons, ih, hl, scope_modScope]
    by_cases hjl : j < w.scopes.length
    · by_cases hx : x = j
      · subst hx; by_cases hxs : x ∈ xs <;> simp [hxs, hjl, hf]
      · have hx' : j ≠ x := fun h => hx h.symm
        simp [hx, hx']
    · simp [hjl]

/-- outside the scope table, a rollback cuts the two node tables and nothing else -/
theorem rollbackProvide_eq (st w : St) (target : Nat) (l : List Nat) :
    rollbackProvide st w target l =
      { w with
        ctors := w.ctors.take st.ctors.length
        pgs := w.pgs.take st.pgs.length
        scopes := (rollbackProvide st w target l).scopes } := by
  unfold rollbackProvide
  rw [foldl_modScope]
  rfl

theorem rollbackProvide_scopesLen (st w : St) (target : Nat) (l : List Nat) :
    (rollbackProvide st w target l).scopes.length = w.scopes.length := by
  unfold rollbackProvide
  exact (List.length_modify ..).trans (length_foldl_modScope _ l w)

/-- in a scope, a rollback resets the providers of the target and cuts the graph holders of the listed scopes -/
theorem rollbackProvide_scope (st w : St) (target : Nat) (l : List Nat) (j : Nat) :
    (rollbackProvide st w target l).scope j =
      if j < w.scopes.length then
        { w.scope j with
          providers := if target = j then (st.scope target).providers else (w.scope j).providers
          gh := if j ∈ l then (w.scope j).gh.take (st.scope j).gh.length else (w.scope j).gh }
      else w.scope j := by
  unfold rollbackProvide
  show (St.modScope _ target _).scope j = _
  rw [scope_modScope, scope_foldl_modScope _ (fun i x => by simp only [List.take_take, Nat.min_self]), length_foldl_modScope]
  by_cases hjl : j < w.scopes.length
  · by_cases hjt : target = j <;> by_cases hm : j ∈ l <;> simp only [hjl, hjt, hm, and_self, and_true, if_true, if_false]
  · simp only [hjl, and_false, if_false]

theorem rollback_restores {st w : St} {target : Nat} (h : Work st w target) :
    EqButVerified st (rollbackProvide st w target (st.subscopes target)) := by
  rw [rollbackProvide_eq]
  refine ⟨h.ctorsPre.symm, h.decos.symm, h.pgsPre.symm, h.execs.symm, h.clock.symm, h.log.symm, h.hist.symm,
    ((rollbackProvide_scopesLen ..).trans h.len).symm, fun j => ?_⟩
  show ScopeButVerified (st.scope j) ((rollbackProvide st w target (st.subscopes target)).scope j)
  rw [rollbackProvide_scope]
  by_cases hjl : j < w.scopes.length
  · obtain ⟨a1, a2, a3, a4, a5, a6, a7, a8, a9, -, a11, a12⟩ := h.scope j
    rw [if_pos hjl]
    refine ⟨a1.symm, a2.symm, ?_, a3.symm, a4.symm, a5.symm, a6.symm, a7.symm, a8.symm, ?_⟩
    · show _ = if target = j then _ else _
      split
      · subst target; rfl
      · exact (a9 fun e => ‹¬target = j› e.symm).symm
    · show _ = if j ∈ st.subscopes target then _ else _
      split
      · exact a11.symm
      · exact (a12 ‹_›).symm
  · rw [if_neg hjl, scope_ge_len w j (Nat.le_of_not_lt hjl), scope_ge_len st j (h.len ▸ Nat.le_of_not_lt hjl)]
    exact ⟨rfl, rfl, rfl, rfl, rfl, rfl, rfl, rfl, rfl, rfl⟩

/-! ### a rejected Decorate / Invoke: parse, then roll back — the container is literally what it was -/

theorem rollback_verified (st w : St) (target : Nat) (l : List Nat) (j : Nat) :
    ((rollbackProvide st w target l).scope j).verified = (w.scope j).verified := by
  rw [rollbackProvide_scope]
  split <;> rfl

theorem scopeSt_ext (a b : ScopeSt) (h : ScopeButVerified a b) (hv : a.verified = b.verified) : a = b := by
  obtain ⟨h1, h2, h3, h4, h5, h6, h7, h8, h9, h10⟩ := h
  cases a; cases b
  simp_all

theorem scopes_ext (a b : List ScopeSt) (hl : a.length = b.length)
    (h : ∀ j, a.getD j { parent := none } = b.getD j { parent := none }) : a = b := by
  apply List.ext_getElem? 
  intro j
  by_cases hj : j < a.length
  · have hjb : j < b.length := by omega
    have := h j
    rw [List.getD_eq_getElem?_getD, List.getD_eq_getElem?_getD, List.getElem?_eq_getElem hj,
      List.getElem?_eq_getElem hjb] at this
    simp only [Option.getD_some] at this
    rw [List.getElem?_eq_getElem hj, List.getElem?_eq_getElem hjb, this]
  · rw [List.getElem?_eq_none (by omega), List.getElem?_eq_none (by omega)]

theorem st_ext_of (a b : St) (h : EqButVerified a b) (hv : ∀ j, (a.scope j).verified = (b.scope j).verified) : a = b := by
  obtain ⟨h1, h2, h3, h4, h5, h6, h7, h8, h9⟩ := h
  have hs : a.scopes = b.scopes := by
    apply scopes_ext _ _ h8
    intro j
    exact scopeSt_ext _ _ (h9 j) (hv j)
  cases a; cases b
  simp_all

/-- parsing a signature for scope `s` and rolling the graphs back gives the container one started from -/
theorem parse_rollback_eq (env : TyEnv) (st : St) (s : Nat) (fn : Fn) :
    rollbackProvide st (parseParams env st s fn).2 s (st.subscopes s) = st := by
  have hw : Work st (parseParams env st s fn).2 s := work_parseParams (Work.refl st s) env fn
  have he := rollback_restores hw
  have hg := ghOnly_parseParams env st s fn
  symm
  apply st_ext_of _ _ he
  intro j
  rw [rollback_verified]
  exact (hg.scope j).verified

/-- every outcome of `Decorate`: rejected, and the container is what it was; or accepted, and on top of the graph nodes
    of the parse the decorator is appended to the table and entered under its keys in the scope -/
theorem apiDecorate_cases (ctx : Ctx) (fn : Fn) (st : St) (i s : Nat) (cb info : Bool) {P : St × RegRes → Prop}
    (hrej : ∀ e, P (st, { v := .err e }))
    (hok : ∀ params results keys w, parseParams ctx.env st s fn = (.ok params, w) → GhOnly st w →
      newResultList ctx.env {} fn = .ok results → resultKeys ctx.env (slotResults results) = .ok keys →
      (hasDup keys || keys.any fun k => (aget (w.scope s).decorators k).isSome) = false →
      P (St.modScope { w with decos := w.decos ++
            [{ fn := fn, params := params, results := results, s := s, cb := if cb then some i else none }] } s
          fun x => { x with decorators := keys.foldl (fun m k => aset m k w.decos.length) x.decorators },
        { v := .ok, info := if info then
            some { id := fn.id, ins := dotParams params, outs := dotSlots results } else none })) :
    P (apiDecorate ctx fn st i s cb info) := by
  unfold apiDecorate
  split
  · exact hrej _
  · simp only
    have hrb := parse_rollback_eq ctx.env st s fn
    have hg := ghOnly_parseParams ctx.env st s fn
    split
    · rename_i hpp; rw [hpp] at hrb; simp only at hrb; rw [hrb]; exact hrej _
    · rename_i params w hpp
      rw [hpp] at hrb hg
      simp only at hrb hg
      split
      · rw [hrb]; exact hrej _
      · rename_i results hr
        split
        · rw [hrb]; exact hrej _
        · rename_i keys hk
          split
          · rw [hrb]; exact hrej _
          · rename_i hc
            exact hok params results keys w hpp hg hr hk (by simpa using hc)

/-- the invariant rule for Invoke: the parse (a failed one is rolled back to the container one started from), the
    verified flag, the resolver, and the invoked function called with what the resolver built -/
theorem apiInvoke_inv {I : St → Prop} {ctx : Ctx} {fn : Fn} {st : St} {s : Nat} {info : Bool} (h : I st)
    (hparse : I (parseParams ctx.env st s fn).2)
    (hflag : ∀ w, I w → checkAcyclic w s = .acyclic → I (w.modScope s fun x => { x with verified := true }))
    (hbuild : ∀ params w, I w → I (buildList ctx (engineFuel w params) params s w).2)
    (hcall : ∀ params w args w4, I w → buildList ctx (engineFuel w params) params s w = (.ok args, w4) → I w4 →
      I (callBody ctx .invoked fn args w4).2) :
    I (apiInvoke ctx fn st s info).1 := by
  refine apiInvoke_cases (P := fun x => I x.1) (fun _ _ => h) ?_ ?_ ?_ ?_
  · intro _ e w hpp
    have hrb := parse_rollback_eq ctx.env st s fn
    rw [hpp] at hrb; rw [hrb]; exact h
  · intro _ params w _ _ hpp _; rw [hpp] at hparse; exact hparse
  · intro _ params w _ hpp _ _; rw [hpp] at hparse; exact hparse
  · intro _ params w w3 hpp _ hck
    rw [hpp] at hparse
    have h3 : I w3 := by
      rcases invokeCheck_ok hck with e | ⟨ha, e⟩
      · rw [e]; exact hparse
      · rw [e]; exact hflag w hparse ha
    exact invokeRun_inv (hbuild params w3 h3) fun args w4 hb => hcall params w3 args w4 h3 hb (by
      have := hbuild params w3 h3; rw [hb] at this; exact this)

end Dig
