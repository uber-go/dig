import DigModel.Proofs.Just2
import DigModel.Proofs.RegOKApi
/-
  `Just2` is an invariant of the whole API.
-/
namespace Dig

theorem Just2.cacheSame {env : TyEnv} {a b : St} (h : Just2 env a) (hc : CacheSame a b) (hk : CtorsKeep a b)
    (hd : DecosKeep a b) : Just2 env b :=
  h.transfer hk hd (HistExt.of_eq hc.hist) (fun j => ⟨hc.groups j, hc.decoratedValues j, hc.decoratedGroups j⟩)

theorem Just2.provide {env : TyEnv} {st : St} (h : Just2 env st) (ctx : Ctx) (fn : Fn) (i s : Nat) (o : ProvideOpts) :
    Just2 env (apiProvide ctx fn st i s o).1 :=
  h.cacheSame (cacheSame_apiProvide ctx fn st i s o) (ctorsKeep_apiProvide ctx fn st i s o)
    (decosKeep_of_decos_eq (apiProvide_decos ctx fn st i s o).1)

theorem decosKeep_append (a : St) (node : DecoNode) (b : St) (h : b.decos = a.decos ++ [node]) : DecosKeep a b := by
  intro d hd
  have : b.deco d = a.deco d := by
    simp only [St.deco, h, List.getD_eq_getElem?_getD, List.getElem?_append_left hd]
  exact ⟨by rw [h]; simp; omega, by rw [this], by rw [this], by rw [this]⟩

theorem apiDecorate_decosKeep (ctx : Ctx) (fn : Fn) (st : St) (i s : Nat) (cb info : Bool) :
    DecosKeep st (apiDecorate ctx fn st i s cb info).1 :=
  apiDecorate_cases ctx fn st i s cb info (P := fun x => DecosKeep st x.1) (fun _ => DecosKeep.refl st)
    (fun _ _ _ w _ hg _ _ _ => decosKeep_append st _ _ (by show w.decos ++ _ = _; rw [← hg.decos]))

theorem Just2.scope {env : TyEnv} {st : St} (h : Just2 env st) (parent : Nat) : Just2 env (apiScope st parent) :=
  h.cacheSame (cacheSame_apiScope st parent) (ctorsKeep_apiScope st parent)
    (decosKeep_of_decos_eq (apiScope_shape st parent).1.decos)

theorem Just2.invoke {st : St} (ctx : Ctx) (h : Just2 ctx.env st) (fn : Fn) (s : Nat) (info : Bool) :
    Just2 ctx.env (apiInvoke ctx fn st s info).1 := by
  have hg := ghOnly_parseParams ctx.env st s fn
  refine apiInvoke_inv h
    (h.cacheSame (cacheSame_ghOnly hg) (ctorsKeep_of_ctors_eq hg.ctors.symm) (decosKeep_of_decos_eq hg.decos.symm))
    (fun w hw _ => hw.cacheSame (cacheSame_modScope _ s _ (fun _ => ⟨rfl, rfl, rfl, rfl⟩)) (ctorsKeep_of_ctors_eq rfl)
      (decosKeep_of_decos_eq rfl))
    (fun params w hw => hw.buildList (engineFuel w params) params s) (fun _ _ args w4 _ _ h4 => ?_)
  have hf := callBody_fields ctx .invoked fn args w4
  exact h4.transfer (ctorsKeep_of_ctors_eq hf.2.1) (decosKeep_of_decos_eq hf.2.2.1)
    (prov_callBody_hist ctx .invoked fn args w4) (fun j => by rw [scope_of_scopes_eq hf.1 j]; exact ⟨rfl, rfl, rfl⟩)

theorem Just2.stepInv (ctx : Ctx) (fns : List Fn) : StepInv ctx fns (Just2 ctx.env) where
  reset _ h := h.transfer (ctorsKeep_of_ctors_eq rfl) (decosKeep_of_decos_eq rfl) (HistExt.of_eq rfl)
    (fun _ => ⟨rfl, rfl, rfl⟩)
  scope _ p h _ _ := h.scope p
  provide _ i s _ fn o h _ _ _ := h.provide ctx fn i s o
  decorate st i s _ fn cb info h _ _ _ := h.cacheSame (cacheSame_apiDecorate ctx fn st i s cb info)
    (ctorsKeep_of_ctors_eq (apiDecorate_ctors ctx fn st i s cb info)) (apiDecorate_decosKeep ctx fn st i s cb info)
  invoke _ s _ fn info h _ _ _ := Just2.invoke ctx h fn s info

theorem just2_program (p : Program) : Just2 p.types (runProgram p).1 :=
  runOps_inv (Just2.stepInv p.ctx p.fns) p.ops 0 {} [] (Just2.init p.types)

end Dig
