import DigModel.Proofs.GroupExact
/-
  In a container without DryRun a constructor is marked built only by a successful execution that the history records
  (`CE`, an invariant of every operation of every program).  With `HInv` (at most one successful execution per
  constructor) and `GX` (the group stores are the history's account): every built feeder of a group has contributed
  its grouped results to the store of its home scope exactly once.
-/
namespace Dig

def CE (st : St) : Prop :=
  ∀ n, (st.ctor n).called = true → ∃ x, Event.exit (.ctor n) (st.ctor n).fn.id x .ok ∈ st.hist

theorem CE.init : CE ({} : St) := by
  intro n h
  have : (({} : St).ctor n) = default := by simp [St.ctor]
  rw [this] at h; cases h

theorem CE.transfer {a b : St} (h : CE a) (hh : HistExt a b)
    (hk : ∀ n, (b.ctor n).called = true → (a.ctor n).called = true ∧ (b.ctor n).fn = (a.ctor n).fn) : CE b := by
  intro n hc
  obtain ⟨h1, h2⟩ := hk n hc
  obtain ⟨x, hx⟩ := h n h1
  obtain ⟨l, hl⟩ := hh
  exact ⟨x, by rw [hl, h2]; exact List.mem_append_left _ hx⟩

theorem CE.ctorTail {ctx : Ctx} (hnd : ctx.cfg.dry = false) {st : St} (h : CE st) (n : Nat) (node : CtorNode)
    (args : List Val) (hst : CtorStatic node (st.ctor n)) : CE (Dig.ctorTail ctx n node args st).2 := by
  have hreg := regFrame_ctorTail ctx st n node args
  intro m hc
  have hfn : ((Dig.ctorTail ctx n node args st).2.ctor m).fn = (st.ctor m).fn := (hreg.ctorStatic m).fn.symm
  rw [ctorTail_ctor] at hc
  by_cases hcond : (callBody ctx (.ctor n) node.fn args st).1.commits = true ∧ n = m ∧ m < st.ctors.length
  · obtain ⟨hcm, hnm, _⟩ := hcond
    subst hnm
    rw [hfn, ← hst.1]
    cases hb : (callBody ctx (.ctor n) node.fn args st).1 with
    | ok x len =>
      exact ⟨x, ctorTail_hist_body ctx n node args st _ (callBody_ok_exit ctx (.ctor n) node.fn args st x len hb)⟩
    | dry => rw [callBody_spec ctx hnd] at hb; exact absurd hb (bodyRes_ne_dry ctx node.fn st)
    | err x o => rw [hb] at hcm; cases hcm
    | panic x => rw [hb] at hcm; cases hcm
  · rw [if_neg hcond] at hc
    obtain ⟨x, hx⟩ := h m hc
    obtain ⟨l, hl⟩ := ctorTail_histExt ctx n node args st
    exact ⟨x, by rw [hl, hfn]; exact List.mem_append_left _ hx⟩

theorem CE.same {a b : St} (h : CE a) (hc : b.ctors = a.ctors) (hh : HistExt a b) : CE b :=
  h.transfer hh (fun n hb => by
    have : b.ctor n = a.ctor n := ctor_of_ctors_eq hc _
    rw [this] at hb ⊢; exact ⟨hb, rfl⟩)

def CER : St → St → Prop := InvRel CE

theorem cer_leaf (ctx : Ctx) (hnd : ctx.cfg.dry = false) : LeafRel2 ctx CER :=
  invRel_leaf ctx
    (fun a b hf h => h.transfer (HistExt.of_eq hf.hist) fun n hb => ⟨by rw [← hf.called n]; exact hb, (hf.reg.ctorStatic n).fn.symm⟩)
    (fun _ n node args hst h => h.ctorTail hnd n node args hst)
    fun st d node args _ h => h.same (decoTail_ctors ctx d node args st) (decoTail_histExt ctx d node args st)

theorem CE.engine {ctx : Ctx} (hnd : ctx.cfg.dry = false) (fuel : Nat) :
    (∀ k soft c st, CE st → CE (buildGroup ctx fuel k soft c st).2) ∧
    (∀ ps c st, CE st → CE (buildList ctx fuel ps c st).2) :=
  ⟨fun k soft c st h => ((engine_pres2 ctx (cer_leaf ctx hnd) fuel).2.2.2.1 k soft c st).inv h,
   fun ps c st h => ((engine_pres2 ctx (cer_leaf ctx hnd) fuel).2.2.2.2.2 ps c st).inv h⟩

theorem CE.provide {st : St} (h : CE st) (ctx : Ctx) (fn : Fn) (i s : Nat) (o : ProvideOpts) : CE (apiProvide ctx fn st i s o).1 := by
  have hcs := cacheSame_apiProvide ctx fn st i s o
  rcases apiProvide_reg2 ctx fn st i s o with he | ⟨results, keys, hadd⟩
  · exact h.same he.ctors.symm (HistExt.of_eq hcs.hist)
  · refine h.transfer (HistExt.of_eq hcs.hist) (fun n hb => ?_)
    by_cases hlt : n < st.ctors.length
    · rw [hadd.pre n hlt] at hb ⊢; exact ⟨hb, rfl⟩
    · exfalso
      by_cases heq : n = st.ctors.length
      · rw [heq, hadd.fresh] at hb; cases hb
      · rw [ctor_default _ n (by rw [hadd.len]; omega)] at hb; cases hb

theorem CE.invoke {ctx : Ctx} (hnd : ctx.cfg.dry = false) {st : St} (h : CE st) (fn : Fn) (s : Nat) (info : Bool) :
    CE (apiInvoke ctx fn st s info).1 := by
  have hg := ghOnly_parseParams ctx.env st s fn
  exact apiInvoke_inv h (h.same hg.ctors.symm (HistExt.of_eq hg.hist.symm))
    (fun w hw _ => hw.same rfl (HistExt.of_eq rfl)) (fun params w hw => (CE.engine hnd _).2 params s w hw)
    fun _ _ args w4 _ _ h4 => h4.same (callBody_fields ctx .invoked fn args w4).2.1 (prov_callBody_hist ctx .invoked fn args w4)

theorem CE.stepInv {ctx : Ctx} (hnd : ctx.cfg.dry = false) (fns : List Fn) : StepInv ctx fns CE where
  reset _ h := h
  scope st p h _ _ := h.transfer (HistExt.of_eq (apiScope_shape st p).1.hist) fun n hb => by
    obtain ⟨o, e⟩ := (apiScope_shape st p).1.ctor n
    rw [e] at hb ⊢; exact ⟨hb, rfl⟩
  provide _ i s _ fn o h _ _ _ := h.provide ctx fn i s o
  decorate st i s _ fn cb info h _ _ _ := h.same (apiDecorate_ctors ctx fn st i s cb info)
    (HistExt.of_eq (cacheSame_apiDecorate ctx fn st i s cb info).1)
  invoke _ s _ fn info h _ _ _ := h.invoke hnd fn s info

theorem ce_program (p : Program) (hnd : p.cfg.dry = false) : CE (runProgram p).1 :=
  runOps_inv (CE.stepInv (ctx := p.ctx) hnd p.fns) p.ops 0 {} [] CE.init

end Dig
