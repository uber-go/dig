import DigModel.Proofs.Core
/-
  DryRun validates the same: the resolver run in a DryRun container and the resolver run in a normal
  container whose user functions all succeed stay in containers with the same core and end with the
  same outcome (the same error, or both deliver).
-/
namespace Dig

def dryOf (ctx : Ctx) : Ctx := { ctx with cfg := { ctx.cfg with dry := true } }

def AllOk (ctx : Ctx) : Prop := ∀ f x, (ctx.beh f x).k = BehKind.ok

theorem dryOf_dry (ctx : Ctx) : (dryOf ctx).cfg.dry = true := rfl
theorem dryOf_env (ctx : Ctx) : (dryOf ctx).env = ctx.env := rfl
theorem dryOf_sameIds (ctx : Ctx) : (dryOf ctx).sameIds = ctx.sameIds := rfl
theorem dryOf_recover (ctx : Ctx) : (dryOf ctx).cfg.recover = ctx.cfg.recover := rfl

theorem findDeco_core {a b : St} (h : CoreEq a b) (k : Key) : ∀ anc, findDeco a k anc = findDeco b k anc := by
  intro anc
  induction anc with
  | nil => rfl
  | cons s rest ih =>
    simp only [findDeco, (h.scope s).decorators]
    cases aget (b.scope s).decorators k with
    | none => exact ih
    | some d => simp only [h.deco d, ih]

theorem coreEq_reads : Reads CoreEq False where
  ctor h := h.ctor
  deco h := h.deco
  ancestors h := h.ancestors
  providers h s := (h.scope s).providers
  findDeco h k := findDeco_core h k
  values h s k := .of_isSome (isSome_of_blankVals (h.scope s).values k)
  dvalues h s k := .of_isSome (isSome_of_blankVals (h.scope s).dvalues k)
  dgroups h s k := .of_isSome (isSome_of_blankVals (h.scope s).dgroups k)
  groups _ hs := hs.elim

theorem bodyRes_allOk (ctx : Ctx) (hok : AllOk ctx) (fn : Fn) (st : St) :
    ∃ x len, bodyRes ctx fn st = .ok x len := by
  unfold bodyRes
  simp only [hok fn.id (st.execCount fn.id)]
  exact ⟨_, _, rfl⟩

theorem coreEq_runCallback_left {a b : St} (h : CoreEq a b) (cb : Option Nat) (who : Who) (fn start : Nat) (err : Option DErr) :
    CoreEq (runCallback cb who fn start err a) b := by
  obtain ⟨h1, h2, h3, h4⟩ := runCallback_fields cb who fn start err a
  exact h.left h2 h3 h4 h1

theorem coreEq_runCallback_right {a b : St} (h : CoreEq a b) (cb : Option Nat) (who : Who) (fn start : Nat) (err : Option DErr) :
    CoreEq a (runCallback cb who fn start err b) := by
  obtain ⟨h1, h2, h3, h4⟩ := runCallback_fields cb who fn start err b
  exact h.right h2 h3 h4 h1

/-- the body ran on the right only, and the two sides extract different values: the same keys are written -/
theorem coreEq_extract (ctx : Ctx) {a b : St} (h : CoreEq a b) (who : Who) (fn : Fn) (args : List Val) (s : Nat)
    (deco : Bool) (r r' : Ret) (results : List RSlot) :
    CoreEq (a.modScope s fun sc => extractSlots ctx.env deco r sc results)
      ((afterBody ctx who fn args b).modScope s fun sc => extractSlots ctx.env deco r' sc results) := by
  obtain ⟨f1, f2, f3, f4⟩ := afterBody_fields ctx who fn args b
  exact (h.right f2 f3 f4 f1).modScope s _ _ fun x y hxy => extractSlots_blank _ deco _ _ results x y hxy

theorem sim_ctorTail (ctx : Ctx) (hnd : ctx.cfg.dry = false) (hok : AllOk ctx) (n : Nat) (node : CtorNode)
    (args args' : List Val) {a b : St} (h : CoreEq a b) :
    Sim CoreEq (Upto False) (ctorTail (dryOf ctx) n node args a) (ctorTail ctx n node args' b) := by
  obtain ⟨x, len, hb⟩ := bodyRes_allOk ctx hok node.fn b
  simp only [ctorTail, callBody_dry (dryOf ctx) rfl, callBody_spec ctx hnd, hb]
  exact ⟨coreEq_runCallback_left (coreEq_runCallback_right ((coreEq_extract ctx h _ _ _ _ _ _ _ _).modCtor n _) ..) ..,
    False.elim⟩

theorem sim_decoTail (ctx : Ctx) (hnd : ctx.cfg.dry = false) (hok : AllOk ctx) (d : Nat) (node : DecoNode)
    (args args' : List Val) {a b : St} (h : CoreEq a b) :
    Sim CoreEq (Upto False) (decoTail (dryOf ctx) d node args a) (decoTail ctx d node args' b) := by
  obtain ⟨x, len, hb⟩ := bodyRes_allOk ctx hok node.fn b
  simp only [decoTail, callBody_dry (dryOf ctx) rfl, callBody_spec ctx hnd, hb]
  exact ⟨coreEq_runCallback_left (coreEq_runCallback_right ((coreEq_extract ctx h _ _ _ _ _ _ _ _).modDeco d _) ..) ..,
    False.elim⟩

theorem coreEq_leaf (ctx : Ctx) (hnd : ctx.cfg.dry = false) (hok : AllOk ctx) :
    Leaf (dryOf ctx) ctx CoreEq (fun _ => True) False where
  toReads := coreEq_reads
  env := rfl
  sameIds := rfl
  okDeco := by intros; trivial
  modCtor h := h.modCtor
  modDeco h _ _ := h.modDeco _
  ctorTail h n node _ _ _ := sim_ctorTail ctx hnd hok n node _ _ h
  decoTail h d _ node _ _ _ := sim_decoTail ctx hnd hok d node _ _ h

theorem engine_drysim (ctx : Ctx) (hnd : ctx.cfg.dry = false) (hok : AllOk ctx) :
    ∀ fuel,
      (∀ n c a b, CoreEq a b → SimR TT (callCtor (dryOf ctx) fuel n c a) (callCtor ctx fuel n c b)) ∧
      (∀ d s a b, CoreEq a b → SimR TT (callDeco (dryOf ctx) fuel d s a) (callDeco ctx fuel d s b)) ∧
      (∀ k opt c a b, CoreEq a b → SimR TT (buildSingle (dryOf ctx) fuel k opt c a) (buildSingle ctx fuel k opt c b)) ∧
      (∀ k soft c a b, CoreEq a b → SimR TT (buildGroup (dryOf ctx) fuel k soft c a) (buildGroup ctx fuel k soft c b)) ∧
      (∀ p c a b, CoreEq a b → SimR TT (buildParam (dryOf ctx) fuel p c a) (buildParam ctx fuel p c b)) ∧
      (∀ ps c a b, CoreEq a b → SimR TT (buildList (dryOf ctx) fuel ps c a) (buildList ctx fuel ps c b)) := by
  intro fuel
  obtain ⟨hC, hD, hS, hG, hP, hL⟩ := engine_sim (coreEq_leaf ctx hnd hok) fuel
  exact ⟨fun n c a b h => .of_sim (hC n c a b h), fun d s a b h => .of_sim (hD d s a b trivial h),
    fun k opt c a b h => .of_sim (hS k opt c a b h), fun k soft c a b h => .of_sim (hG k soft c a b h),
    fun p c a b h => .of_sim (hP p c a b h), fun ps c a b h => .of_sim (hL ps c a b h)⟩

end Dig
