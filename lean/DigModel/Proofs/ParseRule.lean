import DigModel.Proofs.TagGrammar
/-
  The signature parsers of Reflect.lean, walked once.  A property that the parser's ways of building an answer respect
  (`ParamRule`, `ResultRule`) holds of every answer, every error is a `ParseErr`, and the parameter parser only
  appends to its state: `newParam_parsed`, `newResult_answer`.  What ParseWF, ParsePure and PgInv say about the
  parsers are instances.
-/
namespace Dig

inductive ParseErr : DErr → Prop
  | invalid0 : ParseErr .invalid0
  | groupOpt : ParseErr .groupOpt
  | invalid {e : DErr} : ParseErr e → ParseErr (.invalid e)

def Answer (P : α → Prop) : Except DErr α → Prop
  | .ok a => P a
  | .error e => ParseErr e

theorem Answer.of_ok {P : α → Prop} {r : Except DErr α} (h : Answer P r) {a : α} (e : r = .ok a) : P a := by
  subst e; exact h

theorem Answer.of_error {P : α → Prop} {r : Except DErr α} (h : Answer P r) {e : DErr} (eq : r = .error e) :
    ParseErr e := by
  subst eq; exact h

theorem boolTag_cases (tag : String) : boolTag tag = .error .invalid0 ∨ ∃ b, boolTag tag = .ok b := by
  unfold boolTag
  split
  · exact .inr ⟨_, rfl⟩
  · split
    · exact .inr ⟨_, rfl⟩
    · exact .inl rfl

theorem parseGroupString_answer (s : String) : Answer (fun g => g.name ≠ "") (parseGroupString s) := by
  cases h : parseGroupString s with
  | ok g =>
    obtain ⟨name, opts, -, hn, -, rfl⟩ := (parseGroupString_ok_iff s g).1 h
    exact hn
  | error e =>
    rcases parseGroupString_error s e h with rfl | rfl
    · exact .invalid0
    · exact .groupOpt

/-! ### parameters -/

def Parsed (P : List PGDesc → α → List PGDesc → Prop) (s : List PGDesc) (o : Except DErr α × List PGDesc) : Prop :=
  ∃ x, o.2 = s ++ x ∧ Answer (fun a => P s a x) o.1

section
variable {P : List PGDesc → α → List PGDesc → Prop} {Q : List PGDesc → β → List PGDesc → Prop} {s : List PGDesc}

theorem Parsed.of_ok {Q : α → Prop} {o : Except DErr α × List PGDesc} (h : Parsed (fun _ a _ => Q a) s o) {a : α}
    (e : o.1 = .ok a) : Q a :=
  h.elim fun _ h => h.2.of_ok e

theorem Parsed.of_error {o : Except DErr α × List PGDesc} (h : Parsed P s o) {e : DErr} (eq : o.1 = .error e) :
    ParseErr e :=
  h.elim fun _ h => h.2.of_error eq

theorem Parsed.pure {a : α} (h : P s a []) : Parsed P s (PM.pure a s) := ⟨[], (List.append_nil s).symm, h⟩

theorem Parsed.fail {e : DErr} (h : ParseErr e) : Parsed P s (PM.fail e s) := ⟨[], (List.append_nil s).symm, h⟩

theorem Parsed.ite {c : Prop} [Decidable c] {a b : Except DErr α × List PGDesc} (ha : Parsed P s a) (hb : Parsed P s b) :
    Parsed P s (if c then a else b) := by split <;> assumption

theorem Parsed.wrap {m : PM α} (h : Parsed P s (m s)) : Parsed P s (m.wrap s) := by
  obtain ⟨x, hx, ha⟩ := h
  unfold PM.wrap
  cases hm : m s with
  | mk r s' =>
    rw [hm] at hx ha
    cases r with
    | ok a => exact ⟨x, hx, ha⟩
    | error e => exact ⟨x, hx, .invalid ha⟩

theorem Parsed.bind {m : PM α} {f : α → PM β} (h : Parsed P s (m s))
    (hf : ∀ a x, P s a x → Parsed (fun _ b y => Q s b (x ++ y)) (s ++ x) (f a (s ++ x))) : Parsed Q s (m.bind f s) := by
  obtain ⟨x, hx, ha⟩ := h
  unfold PM.bind
  cases hm : m s with
  | mk r s' =>
    rw [hm] at hx ha
    cases r with
    | error e => exact ⟨x, hx, ha⟩
    | ok a =>
      obtain rfl : s' = s ++ x := hx
      obtain ⟨y, hy, hb⟩ := hf a x ha
      exact ⟨x ++ y, by rw [hy, List.append_assoc], hb⟩

theorem Parsed.map {m : PM α} {g : α → β} (h : Parsed P s (m s)) (hg : ∀ a x, P s a x → Q s (g a) x) :
    Parsed Q s (m.bind (fun a => .pure (g a)) s) :=
  h.bind fun a x ha => .pure (by rw [List.append_nil]; exact hg a x ha)
end

def ParamLeaf (k : Key) (opt : Bool) (m : PM Param) : Prop :=
  m = .fail .invalid0 ∨ m = .fail (.invalid .invalid0) ∨ m = .pure (.single k opt)

namespace ParamLeaf
variable {k : Key} {opt : Bool}
theorem fail0 : ParamLeaf k opt (.fail .invalid0) := .inl rfl
theorem fail1 : ParamLeaf k opt (.fail (.invalid .invalid0)) := .inr (.inl rfl)
theorem pure : ParamLeaf k opt (.pure (.single k opt)) := .inr (.inr rfl)
theorem ite {c : Prop} [Decidable c] {a b : PM Param} (ha : ParamLeaf k opt a) (hb : ParamLeaf k opt b) :
    ParamLeaf k opt (if c then a else b) := by split <;> assumption
end ParamLeaf

theorem newParam_shape (env : TyEnv) : ∀ t : GoT,
    ParamLeaf { ty := t.id, name := "", group := "" } false (newParam env t) ∨
    ∃ i fs ig, t = .strct i fs ∧ newParam env t = (newParamFields env ig fs).bind fun ps => .pure (.object i ps)
  | .univ i => by
    rw [newParam]
    exact .inl (.ite .fail0 (.ite .fail1 (.ite .fail0 (.ite .fail0 .pure))))
  | .ptr i inner => by
    rw [newParam]
    exact .inl (.ite .fail0 (.ite .fail0 (.ite .fail0 .pure)))
  | .strct i fs => by
    rw [newParam]
    split
    · exact .inl .fail0
    · split
      · rcases boolTag_cases (if hasInField fs then findIgnoreTag fs else "") with h | ⟨ig, h⟩ <;> simp only [h]
        · exact .inl .fail0
        · refine .inr ⟨i, fs, ig, rfl, funext fun s => ?_⟩
          unfold PM.bind
          cases newParamFields env ig fs s with | mk r s' => cases r <;> rfl
      · exact .inl (.ite .fail0 .pure)

theorem newParamListAux_cons (env : TyEnv) (t : GoT) (rest : List GoT) :
    newParamListAux env (t :: rest) =
      (newParam env t).wrap.bind fun p => (newParamListAux env rest).bind fun ps => .pure (p :: ps) := by
  funext s
  simp only [newParamListAux, PM.bind, PM.wrap]
  cases newParam env t s with
  | mk r s1 =>
    cases r with
    | error e => rfl
    | ok p => simp only; cases newParamListAux env rest s1 with | mk r s2 => cases r <;> rfl

/-- a field of a parameter object is skipped (`dig.In` itself, or unexported under `ignore-unexported`) or parsed -/
theorem newParamFields_cons (env : TyEnv) (ig : Bool) (f : FieldMeta × GoT) (rest : List (FieldMeta × GoT)) :
    newParamFields env ig (f :: rest) = newParamFields env ig rest ∨
    newParamFields env ig (f :: rest) =
      (newParamField env f).wrap.bind fun p => (newParamFields env ig rest).bind fun ps => .pure (p :: ps) := by
  rw [newParamFields]
  by_cases h1 : f.2.isUniv tIn = true
  · left; simp only [if_pos h1]
  · by_cases h2 : (!f.1.exported && ig) = true
    · left; simp only [if_neg h1, if_pos h2]
    · refine .inr (funext fun s => ?_)
      simp only [if_neg h1, if_neg h2, PM.bind, PM.wrap]
      cases newParamField env f s with
      | mk r s1 =>
        cases r with
        | error e => rfl
        | ok p => simp only; cases newParamFields env ig rest s1 with | mk r s2 => cases r <;> rfl

theorem newParamField_shape (env : TyEnv) (m : FieldMeta) (t : GoT) :
    (∃ opt, ParamLeaf { ty := t.id, name := m.tags.name, group := "" } opt (newParamField env (m, t))) ∨
    (m.tags.group ≠ "" ∧ newParamField env (m, t) = newParamGroupedSlice env m t) ∨
    newParamField env (m, t) = newParam env t := by
  rw [newParamField]
  by_cases h1 : (!m.exported) = true
  · simp only [if_pos h1]; exact .inl ⟨false, .fail0⟩
  · by_cases h2 : (m.tags.group != "") = true
    · exact .inr (.inl ⟨by simpa using h2, by simp only [if_neg h1, if_pos h2]⟩)
    · simp only [if_neg h1, if_neg h2]
      rcases newParam_shape env t with (h | h | h) | ⟨i, fs, ig, rfl, h⟩ <;> rw [h]
      · exact .inl ⟨false, .fail0⟩
      · exact .inl ⟨false, .fail1⟩
      · rcases boolTag_cases m.tags.optional with hb | ⟨opt, hb⟩ <;> simp only [PM.pure, hb]
        · exact .inl ⟨false, .fail0⟩
        · exact .inl ⟨opt, .pure⟩
      · refine .inr (.inr (funext fun s => ?_))
        unfold PM.bind
        cases newParamFields env ig fs s with | mk r s' => cases r <;> rfl

/-- What a property of parsed parameters (`P`) and parameter lists (`PL`) must respect to hold of every parse: the
    ways the parser builds its answers.  `P s p x`: `p` was parsed in state `s`, which grew by `x`. -/
structure ParamRule (P : List PGDesc → Param → List PGDesc → Prop) (PL : List PGDesc → List Param → List PGDesc → Prop) :
    Prop where
  single (s ty name opt) : P s (.single { ty := ty, name := name, group := "" } opt) []
  grouped (s ty elem g soft) : g ≠ "" →
    P s (.grouped ty { ty := elem, name := "", group := g } soft s.length) [{ group := g, elem := elem }]
  object {s ty ps x} : PL s ps x → P s (.object ty ps) x
  nil (s) : PL s [] []
  cons {s p x ps y} : P s p x → PL (s ++ x) ps y → PL s (p :: ps) (x ++ y)

section
variable {P : List PGDesc → Param → List PGDesc → Prop} {PL : List PGDesc → List Param → List PGDesc → Prop}
  (R : ParamRule P PL) (env : TyEnv)
include R

theorem ParamLeaf.parsed {ty : Nat} {name : String} {opt : Bool} {m : PM Param}
    (h : ParamLeaf { ty := ty, name := name, group := "" } opt m) (s : List PGDesc) : Parsed P s (m s) := by
  rcases h with rfl | rfl | rfl
  · exact .fail .invalid0
  · exact .fail (.invalid .invalid0)
  · exact .pure (R.single ..)

theorem newParamGroupedSlice_parsed (m : FieldMeta) (t : GoT) (s : List PGDesc) :
    Parsed P s (newParamGroupedSlice env m t s) := by
  unfold newParamGroupedSlice
  have hg := parseGroupString_answer m.tags.group
  generalize parseGroupString m.tags.group = r at hg
  cases r with
  | error e => exact .fail hg
  | ok g =>
    exact .ite (.fail .invalid0) (.ite (.fail .invalid0) (.ite (.fail .invalid0) (.ite (.fail .invalid0)
      ⟨_, rfl, R.grouped _ _ _ _ _ hg⟩)))

theorem ParamRule.step {m : PM Param} {ml : PM (List Param)} (hm : ∀ s, Parsed P s (m s)) (hl : ∀ s, Parsed PL s (ml s))
    (s : List PGDesc) : Parsed PL s ((m.wrap.bind fun p => ml.bind fun ps => .pure (p :: ps)) s) :=
  (hm s).wrap.bind fun _ _ hp => (hl _).map fun _ _ hps => R.cons hp hps

theorem newParamField_parsed_of {m : FieldMeta} {t : GoT} (h : ∀ s, Parsed P s (newParam env t s)) :
    ∀ s, Parsed P s (newParamField env (m, t) s) := by
  rcases newParamField_shape env m t with ⟨opt, hl⟩ | ⟨-, e⟩ | e
  · exact hl.parsed R
  · rw [e]; exact newParamGroupedSlice_parsed R env m t
  · rw [e]; exact h

theorem newParamFields_parsed_cons {ig : Bool} {f : FieldMeta × GoT} {rest : List (FieldMeta × GoT)}
    (hf : ∀ s, Parsed P s (newParamField env f s)) (hr : ∀ s, Parsed PL s (newParamFields env ig rest s)) :
    ∀ s, Parsed PL s (newParamFields env ig (f :: rest) s) := by
  rcases newParamFields_cons env ig f rest with e | e <;> rw [e]
  · exact hr
  · exact R.step hf hr

theorem newParam_parsed_of {t : GoT} (h : ∀ i fs, t = .strct i fs → ∀ ig s, Parsed PL s (newParamFields env ig fs s)) :
    ∀ s, Parsed P s (newParam env t s) := by
  rcases newParam_shape env t with hl | ⟨i, fs, ig, rfl, e⟩
  · exact hl.parsed R
  · intro s; rw [e]; exact (h i fs rfl ig s).map fun _ _ => R.object

theorem newParam_parsed (t : GoT) : ∀ s, Parsed P s (newParam env t s) :=
  GoT.rec (motive_1 := fun t => ∀ s, Parsed P s (newParam env t s))
    (motive_2 := fun fs => ∀ ig s, Parsed PL s (newParamFields env ig fs s))
    (motive_3 := fun f => ∀ s, Parsed P s (newParamField env f s))
    (fun _ => newParam_parsed_of R env fun _ _ h => nomatch h) (fun _ _ _ => newParam_parsed_of R env fun _ _ h => nomatch h)
    (fun _ _ ih => newParam_parsed_of R env fun _ _ h => by cases h; exact ih) (fun _ s => .pure (R.nil s))
    (fun _ _ hf hr ig => newParamFields_parsed_cons R env hf (hr ig)) (fun _ _ => newParamField_parsed_of R env) t

theorem newParamField_parsed (f : FieldMeta × GoT) : ∀ s, Parsed P s (newParamField env f s) :=
  newParamField_parsed_of R env (newParam_parsed R env f.2)

theorem newParamFields_parsed (ig : Bool) : ∀ fs s, Parsed PL s (newParamFields env ig fs s)
  | [], s => .pure (R.nil s)
  | f :: rest, s => newParamFields_parsed_cons R env (newParamField_parsed R env f) (newParamFields_parsed ig rest) s

theorem newParamListAux_parsed : ∀ ts s, Parsed PL s (newParamListAux env ts s)
  | [], s => .pure (R.nil s)
  | t :: rest, s => by
    rw [newParamListAux_cons]; exact R.step (newParam_parsed R env t) (newParamListAux_parsed rest) s
end

/-! ### results -/

structure ResultRule (P : Result → Prop) (PL : List Result → Prop) : Prop where
  single (slot decl ty name as) : P (.single slot decl ty name as)
  grouped (slot decl ty g flatten as) : g ≠ "" → P (.grouped slot decl ty g flatten as)
  object {ty rs} : PL rs → P (.object ty rs)
  nil : PL []
  cons {r rs} : P r → PL rs → PL (r :: rs)

namespace Answer
variable {P : α → Prop}
theorem invalid0 : Answer P (.error .invalid0) := ParseErr.invalid0
theorem invalid1 : Answer P (.error (.invalid .invalid0)) := ParseErr.invalid0.invalid
theorem ite {c : Prop} [Decidable c] {a b : Except DErr α} (ha : Answer P a) (hb : Answer P b) :
    Answer P (if c then a else b) := by split <;> assumption
end Answer

theorem asTypes_answer (env : TyEnv) (t : GoT) (as : List Nat) : Answer (fun _ => True) (asTypes env t as) := by
  rw [asTypes_eq]
  exact .ite trivial .invalid0

section
variable {P : Result → Prop} {PL : List Result → Prop} (R : ResultRule P PL) (env : TyEnv)
include R

theorem newResultSingle_answer (slot : Nat) (t : GoT) (o : ResultOpts) : Answer P (newResultSingle env slot t o) := by
  unfold newResultSingle
  have ha := asTypes_answer env t o.as
  generalize asTypes env t o.as = r at ha
  rcases r with e | _ | _
  · exact ha
  · exact R.single ..
  · exact R.single ..

theorem newResultGroupOpt_answer (slot : Nat) (t : GoT) (o : ResultOpts) : Answer P (newResultGroupOpt env slot t o) := by
  unfold newResultGroupOpt
  have hg := parseGroupString_answer o.group
  generalize parseGroupString o.group = r at hg
  cases r with
  | error e => exact hg.invalid
  | ok g =>
    refine .ite .invalid0 ?_
    have ha := asTypes_answer env t o.as
    generalize asTypes env t o.as = r at ha
    cases r with
    | error e => exact ha
    | ok as => exact .ite .invalid0 (.ite (.ite .invalid0 (R.grouped _ _ _ _ _ _ hg)) (R.grouped _ _ _ _ _ _ hg))

theorem newResultGrouped_answer (slot : Nat) (m : FieldMeta) (t : GoT) : Answer P (newResultGrouped env slot m t) := by
  unfold newResultGrouped
  have hg := parseGroupString_answer m.tags.group
  generalize parseGroupString m.tags.group = r at hg
  cases r with
  | error e => exact hg
  | ok g => exact .ite .invalid0 (.ite .invalid0 (.ite .invalid0 (.ite .invalid0 (R.grouped _ _ _ _ _ _ hg))))

theorem newResultFields_answer_cons {f : FieldMeta × GoT} {rest : List (FieldMeta × GoT)}
    (hf : ∀ o slot, Answer P (newResultField env o slot f)) (hr : ∀ o slot, Answer PL (newResultFields env o slot rest))
    (o : ResultOpts) (slot : Nat) : Answer PL (newResultFields env o slot (f :: rest)) := by
  rw [newResultFields]
  refine .ite (hr ..) ?_
  have hf := hf o slot
  generalize newResultField env o slot f = r at hf
  cases r with
  | error e => exact hf.invalid
  | ok r =>
    have hr := hr o (slot + leafCountField f)
    generalize newResultFields env o (slot + leafCountField f) rest = rs at hr
    cases rs with
    | error e => exact hr
    | ok rs => exact R.cons hf hr

theorem newResultField_answer_of {m : FieldMeta} {t : GoT} (h : ∀ o slot, Answer P (newResult env o slot t))
    (o : ResultOpts) (slot : Nat) : Answer P (newResultField env o slot (m, t)) := by
  rw [newResultField]
  exact .ite .invalid0 (.ite (newResultGrouped_answer R env ..) (h ..))

theorem newResult_answer (t : GoT) : ∀ o slot, Answer P (newResult env o slot t) := by
  have leaf (o slot t) : Answer P (if o.group != "" then newResultGroupOpt env slot t o else newResultSingle env slot t o) :=
    .ite (newResultGroupOpt_answer R env ..) (newResultSingle_answer R env ..)
  refine GoT.rec (motive_1 := fun t => ∀ o slot, Answer P (newResult env o slot t))
    (motive_2 := fun fs => ∀ o slot, Answer PL (newResultFields env o slot fs))
    (motive_3 := fun f => ∀ o slot, Answer P (newResultField env o slot f))
    (fun i o slot => ?_) (fun i inner _ o slot => ?_) (fun i fs ih o slot => ?_) (fun _ _ => R.nil)
    (fun _ _ => newResultFields_answer_cons R env) (fun _ _ => newResultField_answer_of R env) t
  · rw [newResult]
    exact .ite .invalid0 (.ite .invalid0 (.ite (.ite .invalid0 (.ite .invalid0 .invalid1))
      (.ite .invalid0 (.ite .invalid0 (leaf ..)))))
  · rw [newResult]
    exact .ite .invalid0 (.ite .invalid0 (leaf ..))
  · rw [newResult]
    refine .ite .invalid0 (.ite (.ite .invalid0 (.ite .invalid0 ?_)) (.ite .invalid0 (leaf ..)))
    have ih := ih o slot
    generalize newResultFields env o slot fs = rs at ih
    cases rs with
    | error e => exact ih
    | ok rs => exact R.object ih

theorem newResultField_answer (f : FieldMeta × GoT) : ∀ o slot, Answer P (newResultField env o slot f) :=
  newResultField_answer_of R env (newResult_answer R env f.2)

theorem newResultFields_answer : ∀ fs o slot, Answer PL (newResultFields env o slot fs)
  | [], _, _ => R.nil
  | f :: rest, o, slot =>
    newResultFields_answer_cons R env (newResultField_answer R env f) (newResultFields_answer rest) o slot

theorem newResultListAux_answer {PS : List RSlot → Prop} (nil : PS []) (err : ∀ {rs}, PS rs → PS (.err :: rs))
    (val : ∀ {r rs}, P r → PS rs → PS (.val r :: rs)) (o : ResultOpts) :
    ∀ ts slot, Answer PS (newResultListAux env o slot ts)
  | [], _ => nil
  | t :: rest, slot => by
    have ih := newResultListAux_answer nil err val o rest (slot + leafCount t)
    have ht := newResult_answer R env t o slot
    rw [newResultListAux]
    generalize newResultListAux env o (slot + leafCount t) rest = rs at ih
    generalize newResult env o slot t = r at ht
    split
    · cases rs with
      | error e => exact ih
      | ok rs => exact err ih
    · cases r with
      | error e => exact ht.invalid
      | ok r =>
        cases rs with
        | error e => exact ih
        | ok rs => exact val ht ih
end

end Dig
