import DigModel.Proofs.ProvideShape
import DigModel.Proofs.Flags
/-
  The history-level invariant behind C02: in every reachable state, every constructor and every
  decorator has at most one successful execution in the whole history, a node with a successful
  execution is marked built, and between two API calls no node is on the stack.
-/
namespace Dig

structure HInv (st : St) : Prop where
  valid : ValidReg st
  ctorOnce : ∀ n, okExits (.ctor n) st.hist ≤ 1 ∧ (okExits (.ctor n) st.hist = 1 → (st.ctor n).called = true)
  ctorIdle : ∀ n, (st.ctor n).onStack = false
  decoOnce : ∀ d, okExits (.deco d) st.hist ≤ 1 ∧ (okExits (.deco d) st.hist = 1 → (st.deco d).state = .called)
  decoIdle : ∀ d, (st.deco d).state ≠ .onStack
  freshC : ∀ n, st.ctors.length ≤ n → okExits (.ctor n) st.hist = 0
  freshD : ∀ d, st.decos.length ≤ d → okExits (.deco d) st.hist = 0

theorem HInv.init : HInv ({} : St) where
  valid := ⟨fun s k n h => by cases s <;> simp [St.scope, agetL, aget] at h,
            fun s k d h => by cases s <;> simp [St.scope, aget] at h⟩
  ctorOnce _ := ⟨by simp [okExits], fun h => by simp [okExits] at h⟩
  ctorIdle n := by simp [St.ctor]; rfl
  decoOnce _ := ⟨by simp [okExits], fun h => by simp [okExits] at h⟩
  decoIdle d := by simp [St.deco]; intro h; cases h
  freshC _ _ := rfl
  freshD _ _ := rfl

theorem HInv.transfer {a b : St} (h : HInv a) (hh : b.hist = a.hist)
    (hc : ∀ n, (b.ctor n).called = (a.ctor n).called ∧ (b.ctor n).onStack = (a.ctor n).onStack)
    (hd : ∀ d, (b.deco d).state = (a.deco d).state)
    (hlc : a.ctors.length ≤ b.ctors.length) (hld : a.decos.length ≤ b.decos.length) (hv : ValidReg b) : HInv b where
  valid := hv
  ctorOnce n := by rw [hh, (hc n).1]; exact h.ctorOnce n
  ctorIdle n := by rw [(hc n).2]; exact h.ctorIdle n
  decoOnce d := by rw [hh, hd d]; exact h.decoOnce d
  decoIdle d := by rw [hd d]; exact h.decoIdle d
  freshC n hn := by rw [hh]; exact h.freshC n (by omega)
  freshD d hd' := by rw [hh]; exact h.freshD d (by omega)

theorem HInv.engine {a b : St} (h : HInv a) (hf : Flags a b) : HInv b := by
  obtain ⟨l, hh, _, hc, hd⟩ := hf.ext
  obtain ⟨rc, rd⟩ := hf.range l hh
  refine ⟨h.valid.of_frame hf.reg, ?_, ?_, ?_, ?_, ?_, ?_⟩
  · intro n
    rw [hh, okExits_append]
    obtain ⟨a1, a2, _, a4⟩ := hc n
    obtain ⟨b1, b2⟩ := h.ctorOnce n
    constructor
    · by_cases h1 : okExits (.ctor n) a.hist = 1
      · have := a2 (b2 h1); omega
      · omega
    · intro ht
      by_cases h1 : okExits (.ctor n) a.hist = 1
      · exact hf.ctorMono n (b2 h1)
      · exact a4 (by omega)
  · intro n; rw [hf.ctorBal n]; exact h.ctorIdle n
  · intro d
    rw [hh, okExits_append]
    obtain ⟨a1, a2, _, a4⟩ := hd d
    obtain ⟨b1, b2⟩ := h.decoOnce d
    constructor
    · by_cases h1 : okExits (.deco d) a.hist = 1
      · have := a2 (b2 h1); omega
      · omega
    · intro ht
      by_cases h1 : okExits (.deco d) a.hist = 1
      · exact hf.decoMono d (b2 h1)
      · exact a4 (by omega)
  · intro d hc'; exact h.decoIdle d ((hf.decoBal d).mp hc')
  · intro n hn
    rw [hh, okExits_append, h.freshC n (by have := hf.reg.ctorsLen; omega), rc n (by have := hf.reg.ctorsLen; omega)]
  · intro d hd'
    rw [hh, okExits_append, h.freshD d (by have := hf.reg.decosLen; omega), rd d (by have := hf.reg.decosLen; omega)]

theorem ValidReg.of_scopes {a b : St} (h : ValidReg a) (hc : a.ctors.length ≤ b.ctors.length) (hd : a.decos.length ≤ b.decos.length)
    (hs : ∀ j, (b.scope j).providers = (a.scope j).providers ∧ (b.scope j).decorators = (a.scope j).decorators) :
    ValidReg b := by
  constructor
  · intro s k n hn; rw [(hs s).1] at hn; have := h.1 s k n hn; omega
  · intro s k d hd'; rw [(hs s).2] at hd'; have := h.2 s k d hd'; omega

theorem HInv.same {a b : St} (h : HInv a) (hc : b.ctors = a.ctors) (hd : b.decos = a.decos) (hh : b.hist = a.hist)
    (hs : ∀ j, (b.scope j).providers = (a.scope j).providers ∧ (b.scope j).decorators = (a.scope j).decorators) :
    HInv b :=
  h.transfer hh (fun n => by unfold St.ctor; rw [hc]; exact ⟨rfl, rfl⟩) (fun d => by unfold St.deco; rw [hd])
    (Nat.le_of_eq (by rw [hc])) (Nat.le_of_eq (by rw [hd]))
    (h.valid.of_scopes (Nat.le_of_eq (by rw [hc])) (Nat.le_of_eq (by rw [hd])) hs)

theorem HInv.ghOnly {a b : St} (h : HInv a) (hg : GhOnly a b) : HInv b :=
  h.same hg.ctors.symm hg.decos.symm hg.hist.symm fun j => ⟨(hg.scope j).providers.symm, (hg.scope j).decorators.symm⟩

theorem HInv.eqButVerified {a b : St} (h : HInv a) (hg : EqButVerified a b) : HInv b :=
  h.same hg.ctors.symm hg.decos.symm hg.hist.symm fun j => ⟨(hg.scope j).providers.symm, (hg.scope j).decorators.symm⟩

theorem HInv.resetLog {a : St} (h : HInv a) : HInv { a with log := [] } :=
  h.same rfl rfl rfl fun _ => ⟨rfl, rfl⟩

theorem HInv.scope {st : St} (h : HInv st) (parent : Nat) : HInv (apiScope st parent) := by
  have hs := (apiScope_shape st parent).1
  refine h.transfer hs.hist (fun n => by obtain ⟨o, e⟩ := hs.ctor n; rw [e]; exact ⟨rfl, rfl⟩)
    (fun d => by unfold St.deco; rw [hs.decos]) (Nat.le_of_eq hs.ctorsLen.symm) (by rw [hs.decos]; exact Nat.le_refl _) ?_
  exact h.valid.of_scopes (Nat.le_of_eq hs.ctorsLen.symm) (by rw [hs.decos]; exact Nat.le_refl _) fun j =>
    ⟨apiScope_scope_keep (·.providers) st parent (fun _ _ => rfl) rfl j,
      apiScope_scope_keep (·.decorators) st parent (fun _ _ => rfl) rfl j⟩

theorem default_ctor_flags : (default : CtorNode).called = false ∧ (default : CtorNode).onStack = false := ⟨rfl, rfl⟩
theorem default_deco_state : (default : DecoNode).state = .ready := rfl

/-! ### Invoke -/

theorem HInv.modVerified {st : St} (h : HInv st) (s : Nat) (b : Bool) :
    HInv (st.modScope s fun x => { x with verified := b }) :=
  h.same rfl rfl rfl fun j => by rw [scope_modScope]; split <;> exact ⟨rfl, rfl⟩

theorem okExits_invoked (ctx : Ctx) (fn : Fn) (args : List Val) (st : St) (w : Who) (hw : w ≠ .invoked) :
    okExits w (bodyEvents ctx .invoked fn args st) = 0 := by
  rw [okExits_bodyEvents]
  have : ¬ (Who.invoked = w) := fun h => hw h.symm
  simp [this]

theorem HInv.invokedBody {st : St} (h : HInv st) (ctx : Ctx) (fn : Fn) (args : List Val) :
    HInv (callBody ctx .invoked fn args st).2 := by
  by_cases hd : ctx.cfg.dry = true
  · rw [callBody_dry ctx hd]; exact h
  · rw [callBody_spec ctx (by simpa using hd)]
    have hf := afterBody_fields ctx .invoked fn args st
    have hh : (afterBody ctx .invoked fn args st).hist = st.hist ++ bodyEvents ctx .invoked fn args st := rfl
    refine ⟨?_, ?_, ?_, ?_, ?_, ?_, ?_⟩
    · exact h.valid.of_scopes (by rw [hf.2.1]; exact Nat.le_refl _) (by rw [hf.2.2.1]; exact Nat.le_refl _)
        (fun j => by simp only [St.scope, hf.1]; exact ⟨trivial, trivial⟩)
    · intro n
      rw [hh, okExits_append, okExits_invoked ctx fn args st _ (by intro e; cases e)]
      simp only [St.ctor, hf.2.1, Nat.add_zero]
      exact h.ctorOnce n
    · intro n; simp only [St.ctor, hf.2.1]; exact h.ctorIdle n
    · intro d
      rw [hh, okExits_append, okExits_invoked ctx fn args st _ (by intro e; cases e)]
      simp only [St.deco, hf.2.2.1, Nat.add_zero]
      exact h.decoOnce d
    · intro d; simp only [St.deco, hf.2.2.1]; exact h.decoIdle d
    · intro n hn
      rw [hh, okExits_append, okExits_invoked ctx fn args st _ (by intro e; cases e)]
      rw [hf.2.1] at hn
      simp [h.freshC n hn]
    · intro d hd'
      rw [hh, okExits_append, okExits_invoked ctx fn args st _ (by intro e; cases e)]
      rw [hf.2.2.1] at hd'
      simp [h.freshD d hd']

theorem HInv.buildList {st : St} (h : HInv st) (ctx : Ctx) (fuel : Nat) (ps : List Param) (c : Nat) :
    HInv (buildList ctx fuel ps c st).2 :=
  h.engine ((engine_flags ctx st.ctors.length st.decos.length fuel).2.2.2.2.2 ps c st ⟨h.valid, rfl, rfl⟩)

theorem HInv.invoke {st : St} (h : HInv st) (ctx : Ctx) (fn : Fn) (s : Nat) (info : Bool) :
    HInv (apiInvoke ctx fn st s info).1 :=
  apiInvoke_inv h (h.ghOnly (ghOnly_parseParams ctx.env st s fn))
    (fun _ hw _ => hw.modVerified s true) (fun params w hw => hw.buildList ctx (engineFuel w params) params s)
    (fun _ _ args _ _ _ h4 => h4.invokedBody ctx fn args)

/-! ### Decorate -/

theorem foldl_aset_val (keys : List Key) (d : Nat) : ∀ (m : List (Key × Nat)) (k : Key) (x : Nat),
    aget (keys.foldl (fun m k => aset m k d) m) k = some x → x = d ∨ aget m k = some x := by
  induction keys with
  | nil => intro m k x h; exact Or.inr h
  | cons k0 ks ih =>
    intro m k x h
    simp only [List.foldl_cons] at h
    rcases ih _ k x h with h1 | h1
    · exact Or.inl h1
    · rw [aget_aset] at h1
      split at h1
      · injection h1 with e; exact Or.inl e.symm
      · exact Or.inr h1

theorem scope_modScope_decorators (w1 : St) (s s' : Nat) (D : List (Key × Nat) → List (Key × Nat)) :
    ((w1.modScope s fun x => { x with decorators := D x.decorators }).scope s').decorators =
      if s = s' ∧ s' < w1.scopes.length then D (w1.scope s').decorators else (w1.scope s').decorators := by
  rw [scope_modScope]
  by_cases hc : s = s' ∧ s' < w1.scopes.length
  · rw [if_pos hc, if_pos hc]
  · rw [if_neg hc, if_neg hc]

theorem HInv.decorate {st : St} (h : HInv st) (ctx : Ctx) (fn : Fn) (i s : Nat) (cb info : Bool) :
    HInv (apiDecorate ctx fn st i s cb info).1 := by
  refine apiDecorate_cases ctx fn st i s cb info (P := fun x => HInv x.1) (fun _ => h) ?_
  intro params results keys w _ hg _ _ _
  have hw := h.ghOnly hg
  have key : ∀ node : DecoNode, node.state = .ready → HInv (St.modScope { w with decos := w.decos ++ [node] } s
      fun x => { x with decorators := keys.foldl (fun m k => aset m k w.decos.length) x.decorators }) := by
    intro node hst
    refine hw.transfer rfl (fun _ => ⟨rfl, rfl⟩) (fun d => ?_) (Nat.le_refl _) (List.length_append ▸ Nat.le_add_right ..)
      ⟨fun s' k n hn => ?_, fun s' k d hd => ?_⟩
    · show ((w.decos ++ [node]).getD d default).state = (w.decos.getD d default).state
      rw [getD_snoc]
      split
      · rfl
      · rw [List.getD_eq_getElem?_getD, List.getElem?_eq_none (Nat.le_of_not_lt ‹_›)]
        split
        · exact hst
        · rfl
    · rw [scope_modScope] at hn
      split at hn <;> exact hw.valid.1 s' k n hn
    · show d < (w.decos ++ [node]).length
      rw [List.length_append]
      rw [scope_modScope_decorators _ s s' (fun m => keys.foldl (fun m k => aset m k w.decos.length) m)] at hd
      split at hd
      · rcases foldl_aset_val keys _ _ k d hd with h1 | h1
        · rw [h1]; exact Nat.lt_succ_self _
        · exact Nat.lt_succ_of_lt (hw.valid.2 s' k d h1)
      · exact Nat.lt_succ_of_lt (hw.valid.2 s' k d hd)
  exact key _ rfl

/-! ### Provide -/

structure WorkN (st w : St) : Prop where
  len : w.ctors.length = st.ctors.length + 1
  called : (w.ctor st.ctors.length).called = false
  onStack : (w.ctor st.ctors.length).onStack = false

theorem work_flags {st w : St} {target : Nat} (h : Work st w target) (hn : WorkN st w) :
    ∀ m, (w.ctor m).called = (st.ctor m).called ∧ (w.ctor m).onStack = (st.ctor m).onStack := by
  intro m
  by_cases h1 : m < st.ctors.length
  · have : w.ctor m = st.ctor m := by
      unfold St.ctor
      rw [← getD_of_take w.ctors st.ctors.length m default h1, h.ctorsPre]
    rw [this]; exact ⟨rfl, rfl⟩
  · have hst : st.ctor m = default := ctor_default st m (Nat.le_of_not_lt h1)
    by_cases h2 : m = st.ctors.length
    · subst h2; rw [hn.called, hn.onStack, hst]; exact ⟨rfl, rfl⟩
    · have hw : w.ctor m = default := ctor_default w m (by have := hn.len; omega)
      rw [hw, hst]; exact ⟨rfl, rfl⟩

theorem HInv.provideWork {st w : St} {target : Nat} (h : HInv st) (hw : Work st w target) (hn : WorkN st w)
    (hp : ∀ j k x, x ∈ agetL (w.scope j).providers k → x = st.ctors.length ∨ x ∈ agetL (st.scope j).providers k) :
    HInv w := by
  refine h.transfer hw.hist (work_flags hw hn) (fun d => by rw [deco_of_decos_eq hw.decos]) (by rw [hn.len]; omega)
    (by rw [hw.decos]; exact Nat.le_refl _) ?_
  constructor
  · intro s k x hx
    rw [hn.len]
    rcases hp s k x hx with h1 | h1
    · omega
    · have := h.valid.1 s k x h1; omega
  · intro s k d hd
    rw [hw.decorators s] at hd
    rw [hw.decos]
    exact h.valid.2 s k d hd

theorem HInv.registered {st w : St} (h : HInv st) {ctx : Ctx} {fn : Fn} {i s : Nat} {o : ProvideOpts} {target : Nat}
    {params : List Param} {results : List RSlot} {keys : List Key}
    (hr : Registered ctx fn st i s o target params results keys w) : HInv w := by
  obtain ⟨ord, e⟩ := hr.ctor
  refine h.provideWork hr.work ⟨hr.len, by rw [e], by rw [e]⟩ fun j k x hx => ?_
  rw [hr.providers_all] at hx
  split at hx
  · rename_i hc
    rw [hc.1]
    exact foldl_aset_append_mem _ _ _ k x hx
  · exact Or.inr hx

theorem HInv.provide {st : St} (h : HInv st) (ctx : Ctx) (fn : Fn) (i s : Nat) (o : ProvideOpts) :
    HInv (apiProvide ctx fn st i s o).1 := by
  refine apiProvide_cases ctx fn st i s o (P := fun x => HInv x.1) (fun _ _ he => h.eqButVerified he)
    (fun _ _ _ _ _ hr => h.registered hr) (fun target _ _ _ w hr => ?_)
  refine (h.registered hr).same rfl rfl rfl fun j => ?_
  rw [scope_modScope]; split <;> exact ⟨rfl, rfl⟩

theorem HInv.stepInv (ctx : Ctx) (fns : List Fn) : StepInv ctx fns HInv where
  reset _ h := h.resetLog
  scope _ p h _ _ := h.scope p
  provide _ i s _ fn o h _ _ _ := h.provide ctx fn i s o
  decorate _ i s _ fn cb info h _ _ _ := h.decorate ctx fn i s cb info
  invoke _ s _ fn info h _ _ _ := h.invoke ctx fn s info

theorem HInv.step {st : St} (h : HInv st) (ctx : Ctx) (fns : List Fn) (i : Nat) (op : Op) :
    HInv (step ctx fns st i op).1 :=
  step_inv (HInv.stepInv ctx fns) h i op

theorem HInv.runOps (ctx : Ctx) (fns : List Fn) : ∀ (ops : List Op) (i : Nat) (st : St) (acc : List OpRes),
    HInv st → HInv (runOps ctx fns ops i st acc).1 :=
  runOps_inv (HInv.stepInv ctx fns)

end Dig
