import DigModel.Proofs.Hoare
/-
  A generic preservation principle for the resolver: any reflexive, transitive
  relation on states that is respected by the leaf steps of the engine
  (on-stack marking, the two "tails" that run a user function and commit its
  results) is respected by every engine function, whatever the outcome
  (value, error, panic, out of fuel).
-/
namespace Dig

def Pres (R : St → St → Prop) {α : Type} (m : EM α) : Prop := ∀ st, R st (m st).2

structure StepRel (R : St → St → Prop) : Prop where
  refl : ∀ s, R s s
  trans : ∀ {a b c}, R a b → R b c → R a c

section
variable {R : St → St → Prop} (hR : StepRel R)
include hR

theorem pres_fail {α : Type} (e : Fail) : Pres R (EM.fail e : EM α) := fun st => hR.refl st

end

structure LeafRel (ctx : Ctx) (R : St → St → Prop) : Prop extends StepRel R where
  setOnStack : ∀ st n, R st (st.modCtor n fun x => { x with onStack := true })
  clearOnStack : ∀ st n, R st (st.modCtor n fun x => { x with onStack := false })
  ctorTail : ∀ st n node args, R st (ctorTail ctx n node args st).2
  decoOnStack : ∀ st d, R st (st.modDeco d fun x => { x with state := .onStack })
  decoFinally : ∀ st d, R st (st.modDeco d fun x => if x.state == .called then x else { x with state := .ready })
  decoTail : ∀ st d node args, R st (decoTail ctx d node args st).2

/-- The two tails are told that the node description they are handed was read from a state `st0` to which theirs is
    related. -/
theorem engine_rel (ctx : Ctx) {R : St → St → Prop} (hR : StepRel R)
    (setOnStack : ∀ st n, R st (st.modCtor n fun x => { x with onStack := true }))
    (clearOnStack : ∀ st n, R st (st.modCtor n fun x => { x with onStack := false }))
    (ctorTail : ∀ st0 st n args, R st0 st → R st (ctorTail ctx n (st0.ctor n) args st).2)
    (decoOnStack : ∀ st d, R st (st.modDeco d fun x => { x with state := .onStack }))
    (decoFinally : ∀ st d, R st (st.modDeco d fun x => if x.state == .called then x else { x with state := .ready }))
    (decoTail : ∀ st0 st d args, R st0 st → R st (decoTail ctx d (st0.deco d) args st).2) :
    ∀ fuel,
      (∀ n c, Pres R (callCtor ctx fuel n c)) ∧
      (∀ d s, Pres R (callDeco ctx fuel d s)) ∧
      (∀ k opt c, Pres R (buildSingle ctx fuel k opt c)) ∧
      (∀ k soft c, Pres R (buildGroup ctx fuel k soft c)) ∧
      (∀ p c, Pres R (buildParam ctx fuel p c)) ∧
      (∀ ps c, Pres R (buildList ctx fuel ps c)) := by
  -- as an invariant: being related to a fixed earlier state `st0`; transitivity is then needed at the leaves only
  have key : ∀ fuel,
      (∀ n c st0 st, R st0 st → Sat (callCtor ctx fuel n c st) (fun _ => R st0) (fun _ => R st0)) ∧
      (∀ d s st0 st, R st0 st → Sat (callDeco ctx fuel d s st) (fun _ => R st0) (fun _ => R st0)) ∧
      (∀ k opt c st0 st, R st0 st → Sat (buildSingle ctx fuel k opt c st) (fun _ => R st0) (fun _ => R st0)) ∧
      (∀ k soft c st0 st, R st0 st → Sat (buildGroup ctx fuel k soft c st) (fun _ => R st0) (fun _ => R st0)) ∧
      (∀ p c st0 st, R st0 st → Sat (buildParam ctx fuel p c st) (fun _ => R st0) (fun _ => R st0)) ∧
      (∀ ps c st0 st, R st0 st → Sat (buildList ctx fuel ps c st) (fun _ => R st0) (fun _ => R st0)) := by
    intro fuel
    induction fuel with
    | zero =>
      refine ⟨?_, ?_, ?_, ?_, ?_, ?_⟩ <;> intros
      · rw [callCtor_zero]; assumption
      · rw [callDeco_zero]; assumption
      · rw [buildSingle_zero]; assumption
      · rw [buildGroup_zero]; assumption
      · rw [buildParam_zero]; assumption
      · rw [buildList_zero]; assumption
    | succ fuel ih =>
      obtain ⟨ihC, ihD, ihS, ihG, ihP, ihL⟩ := ih
      refine ⟨?_, ?_, ?_, ?_, ?_, ?_⟩
      · intro n c st0 st h0
        rw [callCtor_succ]
        split
        · exact h0
        · split
          · exact h0
          · have h1 := setOnStack st n
            have hfin : ∀ s, R st s → R st0 (s.modCtor n fun x => { x with onStack := false }) :=
              fun s h => hR.trans h0 (hR.trans h (clearOnStack s n))
            refine finally_sat (Q' := fun _ => R st) (E' := fun _ => R st) ?_ (fun _ => hfin) (fun _ => hfin)
            refine bind_sat ((shallowCheck_sat _ _ _).mono (fun _ _ e => e ▸ h1) (fun _ _ e => e.1 ▸ h1)) fun _ s2 h2 => ?_
            refine bind_sat (wrapErr_sat (ihL _ _ st s2 h2) fun _ _ h => h) fun args s3 h3 => ?_
            exact sat_state.2 (hR.trans h3 (ctorTail st s3 n args h3))
      · intro d s st0 st h0
        rw [callDeco_succ]
        split
        · exact h0
        · have h1 := decoOnStack st d
          have hfin : ∀ s, R st s →
              R st0 (s.modDeco d fun x => if x.state == .called then x else { x with state := .ready }) :=
            fun s h => hR.trans h0 (hR.trans h (decoFinally s d))
          refine finally_sat (Q' := fun _ => R st) (E' := fun _ => R st) ?_ (fun _ => hfin) (fun _ => hfin)
          refine bind_sat ((shallowCheck_sat _ _ _).mono (fun _ _ e => e ▸ h1) (fun _ _ e => e.1 ▸ h1)) fun _ s2 h2 => ?_
          refine bind_sat (wrapErr_sat (ihL _ _ st s2 h2) fun _ _ h => h) fun args s3 h3 => ?_
          exact sat_state.2 (hR.trans h3 (decoTail st s3 d args h3))
      · intro k opt c st0 st h0
        rw [buildSingle_succ]
        split
        · refine bind_sat (wrapErr_sat (ihD _ _ st0 st h0) fun _ _ h => h) fun _ s' h => ?_
          split <;> exact h
        · split
          · exact h0
          · split
            · exact h0
            · split <;> exact h0
            · refine bind_sat (firstM_inv h0 fun n _ s1 h1 => ?_) fun early s' h => ?_
              · exact sat_state.2 (providerStep_state .. ▸ sat_state.1 (ihC _ _ st0 s1 h1))
              · split
                · exact h
                · split <;> exact h
      · intro k soft c st0 st h0
        rw [buildGroup_succ]
        refine bind_sat (forEachM_inv h0 fun s _ s1 h1 => ?_) fun _ s2 h2 => ?_
        · simp only [groupDecoStep]
          split
          · split
            · exact h1
            · exact wrapErr_sat (ihD _ _ st0 s1 h1) fun _ _ h => h
          · exact h1
        · split
          · exact h2
          · refine bind_sat (R := fun _ => R st0) ?_ fun _ s5 h5 => h5
            split
            · exact h2
            · exact forEachM_inv h2 fun s _ s3 h3 => forEachM_inv h3 fun n _ s4 h4 =>
                wrapErr_sat (ihC _ _ st0 s4 h4) fun _ _ h => h
      · intro p c st0 st h0
        rw [buildParam_succ]
        cases p with
        | single k opt => exact ihS k opt c st0 st h0
        | grouped ty k soft pg => exact ihG k soft c st0 st h0
        | object ty fs =>
          refine bind_sat (mapM_inv h0 fun f _ s h => ihP f c st0 s h) fun hard s1 h1 => ?_
          exact bind_sat (mapM_inv h1 fun f _ s h => ihP f c st0 s h) fun soft s2 h2 => h2
      · intro ps c st0 st h0
        rw [buildList_succ]
        exact mapM_inv h0 fun p _ s h => ihP p c st0 s h
  intro fuel
  obtain ⟨hC, hD, hS, hG, hP, hL⟩ := key fuel
  exact ⟨fun n c st => sat_state.1 (hC n c st st (hR.refl st)), fun d s st => sat_state.1 (hD d s st st (hR.refl st)),
    fun k opt c st => sat_state.1 (hS k opt c st st (hR.refl st)), fun k soft c st => sat_state.1 (hG k soft c st st (hR.refl st)),
    fun p c st => sat_state.1 (hP p c st st (hR.refl st)), fun ps c st => sat_state.1 (hL ps c st st (hR.refl st))⟩

theorem engine_pres (ctx : Ctx) {R : St → St → Prop} (h : LeafRel ctx R) :
    ∀ fuel,
      (∀ n c, Pres R (callCtor ctx fuel n c)) ∧
      (∀ d s, Pres R (callDeco ctx fuel d s)) ∧
      (∀ k opt c, Pres R (buildSingle ctx fuel k opt c)) ∧
      (∀ k soft c, Pres R (buildGroup ctx fuel k soft c)) ∧
      (∀ p c, Pres R (buildParam ctx fuel p c)) ∧
      (∀ ps c, Pres R (buildList ctx fuel ps c)) :=
  engine_rel ctx h.toStepRel h.setOnStack h.clearOnStack (fun _ st n args _ => h.ctorTail st n _ args)
    h.decoOnStack h.decoFinally (fun _ st d args _ => h.decoTail st d _ args)

end Dig
