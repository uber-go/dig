import DigModel.Proofs.Flags
/-
  A constructor call that ends with an error or a panic leaves the node
  "not built" and not on the stack: the next demand executes it again.
-/
namespace Dig

theorem callCtor_fail (ctx : Ctx) (L L' fuel n c : Nat) (hn : n < L) (st : St) (hv : VL L L' st)
    (hc : (st.ctor n).called = false) (ho : (st.ctor n).onStack = false) (e : Fail)
    (he : (callCtor ctx (fuel + 1) n c st).1 = .error e) :
    ((callCtor ctx (fuel + 1) n c st).2.ctor n).called = false ∧
    ((callCtor ctx (fuel + 1) n c st).2.ctor n).onStack = false := by
  have hfl := (engine_flags ctx L L' (fuel + 1)).1 n c hn st hv
  refine ⟨?_, by rw [hfl.ctorBal n]; exact ho⟩
  have hL := (engine_flags ctx L L' fuel).2.2.2.2.2 (st.ctor n).params c
  have hin := ctor_inner ctx fuel n c (st.ctor n) L L' hn hL _ (hv.modCtor n true)
  simp only [callCtor, hc, ho, Bool.false_eq_true, if_false, EM.finally_] at he ⊢
  obtain ⟨s3, h1, _, h3⟩ := (sat_iff.1 hin).2 e he
  have h1o : ((st.modCtor n fun x => { x with onStack := true }).ctor n).onStack = true := by
    rw [ctor_modCtor]; simp [hv.2.1, hn]
  have h1n : ((st.modCtor n fun x => { x with onStack := true }).ctor n).called = false := by
    rw [ctor_modCtor]; split <;> simp [hc]
  have hs3 : (s3.ctor n).called = false := by rw [h1.ctorFrame n h1o]; exact h1n
  rw [ctor_modCtor]
  split <;> simp [h3, hs3]

/-- a failing `decoratorNode.Call` leaves the decorator ready to be applied again (repair of F4) -/
theorem callDeco_fail (ctx : Ctx) (L L' fuel d c : Nat) (hd : d < L') (st : St) (hv : VL L L' st)
    (hs : (st.deco d).state = .ready) (e : Fail)
    (he : (callDeco ctx (fuel + 1) d c st).1 = .error e) :
    ((callDeco ctx (fuel + 1) d c st).2.deco d).state = .ready := by
  have hL := (engine_flags ctx L L' fuel).2.2.2.2.2 (st.deco d).params (st.deco d).s
  have hin := deco_inner ctx fuel d c (st.deco d) L L' hd hL _ (hv.modDeco d)
  simp only [callDeco, hs, EM.finally_] at he ⊢
  have hne : (DecoState.ready == DecoState.called) = false := by decide
  simp only [hne, Bool.false_eq_true, if_false] at he ⊢
  obtain ⟨s3, h1, h2, h3⟩ := (sat_iff.1 hin).2 e he
  have h1o : ((st.modDeco d fun x => { x with state := .onStack }).deco d).state = .onStack := by
    rw [deco_modDeco]; simp [hv.2.2, hd]
  have hs3 : (s3.deco d).state = .onStack := by rw [h1.decoFrame d h1o]; exact h1o
  have hlen : d < ((EM.bind (shallowCheck c (st.deco d).params) fun _ =>
        EM.bind (EM.wrapErr (buildList ctx fuel (st.deco d).params (st.deco d).s) .argsFailed) fun args =>
        decoTail ctx d (st.deco d) args) (st.modDeco d fun x => { x with state := .onStack })).2.decos.length := by
    have e1 := h1.reg.decosLen
    have e2 := h2.reg.decosLen
    simp [St.modDeco] at e1
    have := hv.2.2
    omega
  rw [deco_modDeco]
  simp only [hlen, and_self, if_true]
  rw [h3, hs3]
  simp

end Dig
