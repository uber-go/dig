import DigModel.Proofs.ProvEngine
import DigModel.Proofs.EngineRel2
/-
  Carrying an invariant of the state through the resolver.  `InvRel Inv a b`: the registry is kept, the history
  extended, what is built stays built, and `Inv` passes from `a` to `b`.  `invRel_leaf` makes it a `LeafRel2` from
  three facts about `Inv`: it survives a change of on-stack marks (`FlagsOnly`) and the tails of the two kinds of node.
-/
namespace Dig

def CtorsKeep (a b : St) : Prop :=
  ∀ n, n < a.ctors.length → n < b.ctors.length ∧ (b.ctor n).fn = (a.ctor n).fn ∧
    (b.ctor n).results = (a.ctor n).results ∧ (b.ctor n).s = (a.ctor n).s ∧
    ((a.ctor n).called = true → (b.ctor n).called = true)

theorem CtorsKeep.refl (a : St) : CtorsKeep a a := fun _ h => ⟨h, rfl, rfl, rfl, fun h => h⟩
theorem CtorsKeep.trans {a b c : St} (h1 : CtorsKeep a b) (h2 : CtorsKeep b c) : CtorsKeep a c := by
  intro n hn
  obtain ⟨a1, a2, a3, a4, a5⟩ := h1 n hn
  obtain ⟨b1, b2, b3, b4, b5⟩ := h2 n a1
  exact ⟨b1, b2.trans a2, b3.trans a3, b4.trans a4, fun h => b5 (a5 h)⟩

theorem ctorsKeep_of_regFrame {a b : St} (h : RegFrame a b)
    (hm : ∀ n, (a.ctor n).called = true → (b.ctor n).called = true) : CtorsKeep a b := fun n hn =>
  have hc := h.ctorStatic n
  ⟨h.ctorsLen ▸ hn, hc.fn.symm, hc.results.symm, hc.s.symm, hm n⟩

/-- `b` is `a` but for on-stack marks.  `decoCalled` runs from `b` to `a`: clearing a decorator's mark (`decoratorNode.Call`'s
    deferred reset) may turn a state into `ready` but never makes a decorator `called` -/
structure FlagsOnly (a b : St) : Prop where
  reg : RegFrame a b
  hist : b.hist = a.hist
  scopes : b.scopes = a.scopes
  called : ∀ n, (b.ctor n).called = (a.ctor n).called
  decoCalled : ∀ d, (b.deco d).state = .called → (a.deco d).state = .called

theorem flagsOnly_onStack (st : St) (n : Nat) (v : Bool) : FlagsOnly st (st.modCtor n fun x => { x with onStack := v }) where
  reg := regFrame_onStack st n v
  hist := rfl
  scopes := rfl
  called m := by rw [ctor_modCtor]; split <;> rfl
  decoCalled _ h := h

theorem flagsOnly_decoOnStack (st : St) (d : Nat) : FlagsOnly st (st.modDeco d fun x => { x with state := .onStack }) where
  reg := regFrame_decoOnStack st d
  hist := rfl
  scopes := rfl
  called _ := rfl
  decoCalled m h := by
    rw [deco_modDeco] at h
    split at h
    · cases h
    · exact h

theorem flagsOnly_decoFinally (st : St) (d : Nat) :
    FlagsOnly st (st.modDeco d fun x => if x.state == .called then x else { x with state := .ready }) where
  reg := regFrame_decoFinally st d
  hist := rfl
  scopes := rfl
  called _ := rfl
  decoCalled m h := by
    rw [deco_modDeco] at h
    split at h
    · split at h
      · exact h
      · cases h
    · exact h

def InvRel (Inv : St → Prop) (a b : St) : Prop :=
  RegFrame a b ∧ HistExt a b ∧ (∀ n, (a.ctor n).called = true → (b.ctor n).called = true) ∧ (Inv a → Inv b)

section
variable {Inv : St → Prop} {a b : St} (h : InvRel Inv a b)
include h
theorem InvRel.reg : RegFrame a b := h.1
theorem InvRel.hist : HistExt a b := h.2.1
theorem InvRel.calledMono (n : Nat) : (a.ctor n).called = true → (b.ctor n).called = true := h.2.2.1 n
theorem InvRel.inv : Inv a → Inv b := h.2.2.2
end

theorem InvRel.refl (Inv : St → Prop) (a : St) : InvRel Inv a a :=
  ⟨RegFrame.refl a, HistExt.refl a, fun _ h => h, fun h => h⟩

theorem InvRel.trans {Inv : St → Prop} {a b c : St} (h1 : InvRel Inv a b) (h2 : InvRel Inv b c) : InvRel Inv a c :=
  ⟨h1.reg.trans h2.reg, h1.hist.trans h2.hist, fun n h => h2.calledMono n (h1.calledMono n h), fun h => h2.inv (h1.inv h)⟩

theorem InvRel.ctorsKeep {Inv : St → Prop} {a b : St} (h : InvRel Inv a b) : CtorsKeep a b :=
  ctorsKeep_of_regFrame h.reg h.calledMono

theorem FlagsOnly.invRel {Inv : St → Prop} {a b : St} (h : FlagsOnly a b) (hi : Inv a → Inv b) : InvRel Inv a b :=
  ⟨h.reg, HistExt.of_eq h.hist, fun n hc => by rw [h.called n]; exact hc, hi⟩

theorem invRel_ctorTail {Inv : St → Prop} (ctx : Ctx) (st : St) (n : Nat) (node : CtorNode) (args : List Val)
    (hi : Inv st → Inv (ctorTail ctx n node args st).2) : InvRel Inv st (ctorTail ctx n node args st).2 :=
  ⟨regFrame_ctorTail ctx st n node args, ctorTail_histExt ctx n node args st, ctorTail_calledMono ctx n node args st, hi⟩

theorem invRel_decoTail {Inv : St → Prop} (ctx : Ctx) (st : St) (d : Nat) (node : DecoNode) (args : List Val)
    (hi : Inv st → Inv (decoTail ctx d node args st).2) : InvRel Inv st (decoTail ctx d node args st).2 :=
  ⟨regFrame_decoTail ctx st d node args, decoTail_histExt ctx d node args st,
    fun m h => by rw [decoTail_ctor]; exact h, hi⟩

theorem invRel_leaf (ctx : Ctx) {Inv : St → Prop} (flags : ∀ a b, FlagsOnly a b → Inv a → Inv b)
    (ctorTail : ∀ st n node args, CtorStatic node (st.ctor n) → Inv st → Inv (ctorTail ctx n node args st).2)
    (decoTail : ∀ st d node args, DecoStatic node (st.deco d) → Inv st → Inv (decoTail ctx d node args st).2) :
    LeafRel2 ctx (InvRel Inv) where
  refl := InvRel.refl Inv
  trans := InvRel.trans
  toReg h := h.reg
  setOnStack st n := (flagsOnly_onStack st n true).invRel (flags _ _ (flagsOnly_onStack st n true))
  clearOnStack st n := (flagsOnly_onStack st n false).invRel (flags _ _ (flagsOnly_onStack st n false))
  ctorTail st n node args hst := invRel_ctorTail ctx st n node args (ctorTail st n node args hst)
  decoOnStack st d := (flagsOnly_decoOnStack st d).invRel (flags _ _ (flagsOnly_decoOnStack st d))
  decoFinally st d := (flagsOnly_decoFinally st d).invRel (flags _ _ (flagsOnly_decoFinally st d))
  decoTail st d node args hst := invRel_decoTail ctx st d node args (decoTail st d node args hst)

end Dig
