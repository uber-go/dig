import DigModel.Proofs.ProvEngine
import DigModel.Proofs.History
import DigModel.Proofs.ExecUniq
/-
  `Prov` is an invariant of the whole API: registrations and `Scope` never touch a cache or the
  history, `Invoke` runs the resolver and then the invoked function with the values it built.
-/
namespace Dig

def CacheSame (a b : St) : Prop :=
  b.hist = a.hist ∧ b.execs = a.execs ∧ ∀ j, (b.scope j).values = (a.scope j).values ∧ (b.scope j).decoratedValues = (a.scope j).decoratedValues ∧
    (b.scope j).groups = (a.scope j).groups ∧ (b.scope j).decoratedGroups = (a.scope j).decoratedGroups

section
variable {a b : St}
theorem CacheSame.hist (h : CacheSame a b) : b.hist = a.hist := h.1
theorem CacheSame.execs (h : CacheSame a b) : b.execs = a.execs := h.2.1
theorem CacheSame.values (h : CacheSame a b) (j : Nat) : (b.scope j).values = (a.scope j).values := (h.2.2 j).1
theorem CacheSame.decoratedValues (h : CacheSame a b) (j : Nat) :
    (b.scope j).decoratedValues = (a.scope j).decoratedValues := (h.2.2 j).2.1
theorem CacheSame.groups (h : CacheSame a b) (j : Nat) : (b.scope j).groups = (a.scope j).groups := (h.2.2 j).2.2.1
theorem CacheSame.decoratedGroups (h : CacheSame a b) (j : Nat) :
    (b.scope j).decoratedGroups = (a.scope j).decoratedGroups := (h.2.2 j).2.2.2
end

theorem CacheSame.refl (a : St) : CacheSame a a := ⟨rfl, rfl, fun _ => ⟨rfl, rfl, rfl, rfl⟩⟩

theorem CacheSame.trans {a b c : St} (h1 : CacheSame a b) (h2 : CacheSame b c) : CacheSame a c :=
  ⟨h2.hist.trans h1.hist, h2.execs.trans h1.execs, fun j => ⟨(h2.values j).trans (h1.values j),
    (h2.decoratedValues j).trans (h1.decoratedValues j), (h2.groups j).trans (h1.groups j),
    (h2.decoratedGroups j).trans (h1.decoratedGroups j)⟩⟩

theorem Prov.cacheSame {a b : St} (h : Prov a) (hc : CacheSame a b) : Prov b := h.transfer hc.hist hc.2.2

theorem cacheSame_of_scopes {a b : St} (hh : b.hist = a.hist) (he : b.execs = a.execs) (hs : b.scopes = a.scopes) :
    CacheSame a b :=
  ⟨hh, he, fun j => by simp [St.scope, hs]⟩

theorem cacheSame_ghOnly {a b : St} (h : GhOnly a b) : CacheSame a b :=
  ⟨h.hist.symm, h.execs.symm, fun j => by
    obtain ⟨_, _, _, _, h5, h6, h7, h8, _, _⟩ := h.scope j
    exact ⟨h5.symm, h6.symm, h7.symm, h8.symm⟩⟩

theorem cacheSame_modScope (st : St) (s : Nat) (f : ScopeSt → ScopeSt)
    (hf : ∀ x, (f x).values = x.values ∧ (f x).decoratedValues = x.decoratedValues ∧ (f x).groups = x.groups ∧
      (f x).decoratedGroups = x.decoratedGroups) : CacheSame st (st.modScope s f) :=
  ⟨rfl, rfl, fun j => by
    rw [scope_modScope]
    split
    · exact hf _
    · exact ⟨rfl, rfl, rfl, rfl⟩⟩

theorem cacheSame_work {st w : St} {target : Nat} (h : Work st w target) : CacheSame st w :=
  ⟨h.hist, h.execs, fun j => ⟨h.values j, h.decoratedValues j, h.groups j, h.decoratedGroups j⟩⟩

theorem cacheSame_eqV {a b : St} (h : EqButVerified a b) : CacheSame a b :=
  ⟨h.hist.symm, h.execs.symm, fun j => by
    obtain ⟨_, _, _, _, h5, h6, h7, h8, _, _⟩ := h.scope j
    exact ⟨h5.symm, h6.symm, h7.symm, h8.symm⟩⟩

theorem cacheSame_apiProvide (ctx : Ctx) (fn : Fn) (st : St) (i s : Nat) (o : ProvideOpts) :
    CacheSame st (apiProvide ctx fn st i s o).1 :=
  apiProvide_cases ctx fn st i s o (P := fun x => CacheSame st x.1) (fun _ _ he => cacheSame_eqV he)
    (fun _ _ _ _ _ hr => cacheSame_work hr.work)
    (fun _ _ _ _ _ hr => (cacheSame_work hr.work).trans (cacheSame_modScope _ _ _ fun _ => ⟨rfl, rfl, rfl, rfl⟩))

theorem cacheSame_apiDecorate (ctx : Ctx) (fn : Fn) (st : St) (i s : Nat) (cb info : Bool) :
    CacheSame st (apiDecorate ctx fn st i s cb info).1 :=
  apiDecorate_cases ctx fn st i s cb info (P := fun x => CacheSame st x.1) (fun _ => CacheSame.refl st)
    (fun _ _ _ _ _ hg _ _ _ => ((cacheSame_ghOnly hg).trans (cacheSame_of_scopes rfl rfl rfl)).trans
      (cacheSame_modScope _ s _ fun _ => ⟨rfl, rfl, rfl, rfl⟩))

theorem cacheSame_apiScope (st : St) (parent : Nat) : CacheSame st (apiScope st parent) :=
  have h := (apiScope_shape st parent).1
  ⟨h.hist, h.execs, fun j =>
    ⟨apiScope_scope_keep (·.values) st parent (fun _ _ => rfl) rfl j,
      apiScope_scope_keep (·.decoratedValues) st parent (fun _ _ => rfl) rfl j,
      apiScope_scope_keep (·.groups) st parent (fun _ _ => rfl) rfl j,
      apiScope_scope_keep (·.decoratedGroups) st parent (fun _ _ => rfl) rfl j⟩⟩

theorem Prov.invoke {st : St} (h : Prov st) (ctx : Ctx) (fn : Fn) (s : Nat) (info : Bool) :
    Prov (apiInvoke ctx fn st s info).1 := by
  have hb : ∀ params w, Prov w → PostR _ w (buildList ctx (engineFuel w params) params s w) :=
    fun params w hw => (engine_prov ctx (engineFuel w params)).2.2.2.2.2 params s w hw
  refine apiInvoke_inv h (h.cacheSame (cacheSame_ghOnly (ghOnly_parseParams ctx.env st s fn)))
    (fun w hw _ => hw.cacheSame (cacheSame_modScope _ s _ (fun _ => ⟨rfl, rfl, rfl, rfl⟩)))
    (fun params w hw => (hb params w hw).1) (fun params w args w4 hw hbl h4 => ?_)
  have hp := hb params w hw
  rw [hbl] at hp
  exact (prov_callBody ctx .invoked fn args w4 h4 (hp.2.2 args rfl)).1

theorem Prov.stepInv (ctx : Ctx) (fns : List Fn) : StepInv ctx fns Prov where
  reset _ h := h.of_scopes rfl rfl
  scope st p h _ _ := h.cacheSame (cacheSame_apiScope st p)
  provide st i s _ fn o h _ _ _ := h.cacheSame (cacheSame_apiProvide ctx fn st i s o)
  decorate st i s _ fn cb info h _ _ _ := h.cacheSame (cacheSame_apiDecorate ctx fn st i s cb info)
  invoke _ s _ fn info h _ _ _ := h.invoke ctx fn s info

/-- in the history of any program, the arguments of every execution stem from executions that had ended
    successfully before -/
theorem prov_program (p : Program) : Prov (runProgram p).1 :=
  runOps_inv (Prov.stepInv p.ctx p.fns) p.ops 0 {} [] Prov.init

/-! ### executions are numbered uniquely, in every reachable state -/

theorem ExecInv.cacheSame {a b : St} (h : ExecInv a) (hc : CacheSame a b) : ExecInv b := h.transfer hc.hist hc.execs

theorem ExecInv.invoke {st : St} (h : ExecInv st) (ctx : Ctx) (fn : Fn) (s : Nat) (info : Bool) :
    ExecInv (apiInvoke ctx fn st s info).1 :=
  apiInvoke_inv h (h.cacheSame (cacheSame_ghOnly (ghOnly_parseParams ctx.env st s fn)))
    (fun w hw _ => hw.cacheSame (cacheSame_modScope _ s _ (fun _ => ⟨rfl, rfl, rfl, rfl⟩)))
    (fun params w hw => hw.buildList ctx (engineFuel w params) params s)
    (fun _ _ args w4 _ _ h4 => execInv_callBody ctx .invoked fn args w4 h4)

theorem ExecInv.stepInv (ctx : Ctx) (fns : List Fn) : StepInv ctx fns ExecInv where
  reset _ h := h.transfer rfl rfl
  scope st p h _ _ := h.cacheSame (cacheSame_apiScope st p)
  provide st i s _ fn o h _ _ _ := h.cacheSame (cacheSame_apiProvide ctx fn st i s o)
  decorate st i s _ fn cb info h _ _ _ := h.cacheSame (cacheSame_apiDecorate ctx fn st i s cb info)
  invoke _ s _ fn info h _ _ _ := h.invoke ctx fn s info

theorem execInv_program (p : Program) : ExecInv (runProgram p).1 :=
  runOps_inv (ExecInv.stepInv p.ctx p.fns) p.ops 0 {} [] ExecInv.init

end Dig
