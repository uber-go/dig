import DigModel.State
/-
  Reading lists and tables: association lists (Go map semantics), a list after `modify`, `take` or an append at the
  end, and the entries of the scope, constructor and decorator tables at and beyond their lengths.
-/
namespace Dig

theorem getD_modify {α : Type} (l : List α) (i j : Nat) (f : α → α) (d : α) :
    (l.modify i f).getD j d = if i = j ∧ j < l.length then f (l.getD j d) else l.getD j d := by
  simp only [List.getD_eq_getElem?_getD, List.getElem?_modify]
  by_cases hj : j < l.length
  · simp [List.getElem?_eq_getElem hj]
    split <;> simp_all
  · simp [hj]

theorem getD_snoc {α : Type} (l : List α) (c d : α) (j : Nat) :
    (l ++ [c]).getD j d = if j < l.length then l.getD j d else if j = l.length then c else d := by
  simp only [List.getD_eq_getElem?_getD]
  by_cases hj : j < l.length
  · rw [List.getElem?_append_left hj]; simp [hj]
  · by_cases hje : j = l.length
    · subst hje; simp
    · have h1 : (l ++ [c])[j]? = none := by simp; omega
      simp [h1, hj, hje]

theorem getD_of_take {α : Type} (l : List α) (k m : Nat) (d : α) (hm : m < k) : (l.take k).getD m d = l.getD m d := by
  simp only [List.getD_eq_getElem?_getD, List.getElem?_take, hm, if_true]

theorem take_modify_ge {α : Type} (l : List α) (n k : Nat) (f : α → α) (h : k ≤ n) :
    (l.modify n f).take k = l.take k := by
  apply List.ext_getElem?
  intro i
  simp only [List.getElem?_take]
  split
  · rename_i hi
    rw [List.getElem?_modify]
    have : n ≠ i := by omega
    simp [this]
  · rfl

theorem flatMap_congr' {α β : Type} (l : List α) (f g : α → List β) (h : ∀ x ∈ l, f x = g x) :
    l.flatMap f = l.flatMap g := by
  induction l with
  | nil => rfl
  | cons x xs ih => simp only [List.flatMap_cons]; rw [h x (by simp), ih (fun y hy => h y (by simp [hy]))]

theorem getElem?_snoc {α : Type} {l : List α} {e x : α} {k : Nat} (h : (l ++ [e])[k]? = some x) :
    l[k]? = some x ∨ (k = l.length ∧ x = e) := by
  rw [List.getElem?_append] at h
  split at h
  · exact Or.inl h
  · rw [List.getElem?_singleton] at h
    split at h
    · exact Or.inr ⟨by omega, (Option.some.inj h).symm⟩
    · cases h

theorem scope_ge_len (st : St) (j : Nat) (h : st.scopes.length ≤ j) : st.scope j = { parent := none } := by
  unfold St.scope
  rw [List.getD_eq_getElem?_getD]
  have : st.scopes[j]? = none := by simp; omega
  simp [this]

theorem scope_of_scopes_eq {a b : St} (h : a.scopes = b.scopes) (j : Nat) : a.scope j = b.scope j := by
  simp [St.scope, h]

theorem ctor_default (st : St) (n : Nat) (h : st.ctors.length ≤ n) : st.ctor n = default := by
  unfold St.ctor
  rw [List.getD_eq_getElem?_getD, List.getElem?_eq_none h]; rfl

theorem deco_default (st : St) (d : Nat) (h : st.decos.length ≤ d) : st.deco d = default := by
  unfold St.deco
  rw [List.getD_eq_getElem?_getD, List.getElem?_eq_none h]; rfl

theorem aget_aset_self {β : Type} (l : List (Key × β)) (k : Key) (v : β) : aget (aset l k v) k = some v := by
  induction l with
  | nil => simp [aset, aget]
  | cons p rest ih =>
    obtain ⟨k', v'⟩ := p
    simp only [aset]
    by_cases h : (k' == k) = true
    · simp [h, aget]
    · simp [h, aget, ih]

theorem aget_aset_other {β : Type} (l : List (Key × β)) (k k' : Key) (v : β) (hne : k' ≠ k) :
    aget (aset l k v) k' = aget l k' := by
  induction l with
  | nil =>
    simp only [aset, aget]
    have : (k == k') = false := by simpa using fun h => hne h.symm
    simp [this]
  | cons p rest ih =>
    obtain ⟨k1, v1⟩ := p
    simp only [aset]
    by_cases h : (k1 == k) = true
    · have e : k1 = k := by simpa using h
      subst e
      have : (k1 == k') = false := by simpa using fun h => hne h.symm
      simp [aget, this]
    · have hf : (k1 == k) = false := by simpa using h
      simp only [hf]
      by_cases h2 : (k1 == k') = true
      · simp [aget, h2]
      · simp [aget, h2, ih]

theorem aget_aset {β : Type} (l : List (Key × β)) (k k' : Key) (v : β) :
    aget (aset l k v) k' = if k' = k then some v else aget l k' := by
  by_cases h : k' = k
  · subst h; simp [aget_aset_self]
  · simp [h, aget_aset_other l k k' v h]

theorem agetL_aset {β : Type} (m : List (Key × List β)) (k k' : Key) (vs : List β) :
    agetL (aset m k vs) k' = if k' = k then vs else agetL m k' := by
  unfold agetL
  rw [aget_aset]
  split <;> rfl

theorem foldl_aset_other (keys : List Key) (d : Nat) (m : List (Key × Nat)) (k : Key) (hk : k ∉ keys) :
    aget (keys.foldl (fun m k => aset m k d) m) k = aget m k := by
  induction keys generalizing m with
  | nil => rfl
  | cons x xs ih =>
    simp only [List.foldl_cons]
    rw [ih _ (fun h => hk (by simp [h]))]
    exact aget_aset_other m x k d (fun h => hk (by simp [h]))

end Dig
