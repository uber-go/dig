import DigModel.Proofs.RootCause
import DigModel.Api
import DigModel.Proofs.ParseState
/-
  Every error built by the signature parsers and the option validators has a root cause of dig's own
  (`DigRoot`): no `*UserErr`, no `PanicError` can come out of a parse.
-/
namespace Dig

theorem digRoot_invalid0 : DigRoot .invalid0 := by intro f x; constructor <;> (intro hc; cases hc)
theorem digRoot_groupOpt : DigRoot .groupOpt := by intro f x; constructor <;> (intro hc; cases hc)
theorem digRoot_invalid {e : DErr} (h : DigRoot e) : DigRoot (.invalid e) := fun f x => h f x
theorem digRoot_provide {e : DErr} (h : DigRoot e) : DigRoot (.provide e) := fun f x => h f x

theorem ParseErr.digRoot {e : DErr} : ParseErr e → DigRoot e
  | .invalid0 => digRoot_invalid0
  | .groupOpt => digRoot_groupOpt
  | .invalid h => digRoot_invalid h.digRoot

theorem paramRule_true : ParamRule (fun _ _ _ => True) (fun _ _ _ => True) := by constructor <;> intros <;> trivial

theorem newParam_err (env : TyEnv) (t : GoT) (s s' : List PGDesc) (e : DErr) (h : newParam env t s = (.error e, s')) :
    DigRoot e := ((newParam_parsed paramRule_true env t s).of_error (congrArg Prod.fst h)).digRoot

theorem newParamFields_err (env : TyEnv) (ignore : Bool) : ∀ (fs : List (FieldMeta × GoT)) (s s' : List PGDesc) (e : DErr),
    newParamFields env ignore fs s = (.error e, s') → DigRoot e :=
  fun fs s _ _ h => ((newParamFields_parsed paramRule_true env ignore fs s).of_error (congrArg Prod.fst h)).digRoot

theorem newParamField_err (env : TyEnv) : ∀ (f : FieldMeta × GoT) (s s' : List PGDesc) (e : DErr),
    newParamField env f s = (.error e, s') → DigRoot e :=
  fun f s _ _ h => ((newParamField_parsed paramRule_true env f s).of_error (congrArg Prod.fst h)).digRoot

theorem parseParams_err (env : TyEnv) (st : St) (sc : Nat) (fn : Fn) (e : DErr) (w : St)
    (h : parseParams env st sc fn = (.error e, w)) : DigRoot e :=
  ((newParamListAux_parsed paramRule_true env _ _).of_error
    ((parseParams_fst env st sc fn).symm.trans (congrArg Prod.fst h))).digRoot

theorem resultRule_true : ResultRule (fun _ => True) (fun _ => True) := by constructor <;> intros <;> trivial

theorem newResult_err (env : TyEnv) (t : GoT) (o : ResultOpts) (slot : Nat) (e : DErr)
    (h : newResult env o slot t = .error e) : DigRoot e :=
  ((newResult_answer resultRule_true env t o slot).of_error h).digRoot

theorem newResultFields_err (env : TyEnv) (o : ResultOpts) : ∀ (fs : List (FieldMeta × GoT)) (slot : Nat) (e : DErr),
    newResultFields env o slot fs = .error e → DigRoot e :=
  fun fs slot _ h => ((newResultFields_answer resultRule_true env fs o slot).of_error h).digRoot

theorem newResultField_err (env : TyEnv) (o : ResultOpts) : ∀ (f : FieldMeta × GoT) (slot : Nat) (e : DErr),
    newResultField env o slot f = .error e → DigRoot e :=
  fun f slot _ h => ((newResultField_answer resultRule_true env f o slot).of_error h).digRoot

theorem newResultList_err (env : TyEnv) (o : ResultOpts) (fn : Fn) (e : DErr) (h : newResultList env o fn = .error e) :
    DigRoot e :=
  ((newResultListAux_answer resultRule_true env (PS := fun _ => True) trivial (fun _ => trivial) (fun _ _ => trivial)
    o fn.outs 0).of_error h).digRoot

theorem validateAs_answer (env : TyEnv) : ∀ as, Answer (fun _ => True) (validateAs env as)
  | [] => trivial
  | .nil :: _ => .invalid0
  | .val _ :: _ => .invalid0
  | .ptrTo _ :: _ => .invalid0
  | .iface i :: rest => by
    have ih := validateAs_answer env rest
    rw [validateAs]
    refine .ite .invalid0 ?_
    generalize validateAs env rest = r at ih
    cases r <;> exact ih

theorem validateOpts_err (env : TyEnv) (o : ProvideOpts) (e : DErr) (h : validateOpts env o = .error e) : DigRoot e := by
  refine (Answer.of_error (P := fun _ => True) ?_ h).digRoot
  unfold validateOpts
  exact .ite .invalid0 (.ite .invalid0 (.ite .invalid0 (validateAs_answer env _)))

theorem visitKeys_chk_answer (X : ScopeSt) : ∀ ks seen, Answer (fun _ => True) (visitKeys.chk X ks seen)
  | [], _ => trivial
  | k :: more, seen => by
    rw [visitKeys.chk]
    exact .ite .invalid1 (.ite .invalid1 (visitKeys_chk_answer X more _))

theorem visitKeys_err (X : ScopeSt) : ∀ (rs : List Result) (seen : List Key) (e : DErr), visitKeys X rs seen = .error e → DigRoot e := by
  intro rs seen e h
  refine (Answer.of_error (P := fun _ => True) ?_ h).digRoot
  clear h
  revert seen
  refine Result.rec_1 (motive_2 := fun rs => ∀ seen, Answer (fun _ => True) (visitKeys X rs seen))
    (motive_1 := fun r => ∀ rest, (∀ seen, Answer (fun _ => True) (visitKeys X rest seen)) →
      ∀ seen, Answer (fun _ => True) (visitKeys X (r :: rest) seen))
    (fun _ _ ty name as rest ih seen => ?_) (fun _ _ _ _ _ _ rest ih seen => ?_) (fun _ fs ihf rest ih seen => ?_)
    (fun _ => by rw [visitKeys]; trivial) (fun _ _ ih1 ih2 => ih1 _ ih2) rs
  · rw [visitKeys]
    have hc := visitKeys_chk_answer X ((ty :: as).map fun t => ({ ty := t, name := name, group := "" } : Key)) seen
    generalize visitKeys.chk X _ seen = r at hc
    cases r with
    | error e => exact hc
    | ok s' => exact ih s'
  · rw [visitKeys]; exact ih _
  · rw [visitKeys]
    have hf := ihf seen
    generalize visitKeys X fs seen = r at hf
    cases r with
    | error e => exact hf
    | ok s' => exact ih s'

theorem resultKeys_err (env : TyEnv) : ∀ (rs : List Result) (e : DErr), resultKeys env rs = .error e → DigRoot e := by
  intro rs e h
  refine (Answer.of_error (P := fun _ => True) ?_ h).digRoot
  clear h
  have tail {α : Type} {f : List Key → α} {rest : List Result} (ih : Answer (fun _ => True) (resultKeys env rest)) :
      Answer (fun _ => True) (match resultKeys env rest with | .ok ks => .ok (f ks) | .error e => .error e) := by
    generalize resultKeys env rest = r at ih
    cases r <;> exact ih
  refine Result.rec_1 (motive_2 := fun rs => Answer (fun _ => True) (resultKeys env rs))
    (motive_1 := fun r => ∀ rest, Answer (fun _ => True) (resultKeys env rest) →
      Answer (fun _ => True) (resultKeys env (r :: rest)))
    (fun _ _ _ _ _ rest ih => ?_) (fun _ _ _ _ _ _ rest ih => ?_) (fun _ fs ihf rest ih => ?_)
    (by rw [resultKeys]; trivial) (fun _ _ ih1 ih2 => ih1 _ ih2) rs
  · rw [resultKeys]; exact tail ih
  · rw [resultKeys]; exact .ite .invalid0 (.ite .invalid0 (tail ih))
  · rw [resultKeys]
    generalize resultKeys env fs = r at ihf
    cases r with
    | error e => exact ihf
    | ok k1 => exact tail ih

end Dig
