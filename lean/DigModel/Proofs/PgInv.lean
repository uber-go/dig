import DigModel.Proofs.GraphMeaningGroups
import DigModel.Proofs.ParseRule
/-
  Every value-group parameter produced by the parser points at the graph-node descriptor the parser created for it
  (`PgOK`), and the parser only ever appends descriptors.  Hence in every reachable container the value-group
  parameters of a registered constructor point at graph nodes that describe them (`PG`), and those nodes sit in every
  holder the constructor's node sits in.
-/
namespace Dig

mutual
/-- the value-group parameters of `p` point at descriptors of index ≥ `lo` that describe them -/
def PgOK (lo : Nat) (descs : List PGDesc) : Param → Prop
  | .single _ _ => True
  | .grouped _ k _ pg => lo ≤ pg ∧ descs[pg]? = some { group := k.group, elem := k.ty }
  | .object _ fs => PgOKL lo descs fs
def PgOKL (lo : Nat) (descs : List PGDesc) : List Param → Prop
  | [] => True
  | p :: ps => PgOK lo descs p ∧ PgOKL lo descs ps
end

mutual
theorem PgOK.mono (lo lo' : Nat) (hlo : lo' ≤ lo) (descs x : List PGDesc) : ∀ (p : Param), PgOK lo descs p → PgOK lo' (descs ++ x) p
  | .single _ _, _ => trivial
  | .grouped _ k _ pg, h => by
    simp only [PgOK] at h ⊢
    rw [List.getElem?_append_left (lt_of_getElem? h.2)]; exact ⟨Nat.le_trans hlo h.1, h.2⟩
  | .object _ fs, h => by
    simp only [PgOK] at h ⊢
    exact PgOKL.mono lo lo' hlo descs x fs h
theorem PgOKL.mono (lo lo' : Nat) (hlo : lo' ≤ lo) (descs x : List PGDesc) : ∀ (ps : List Param), PgOKL lo descs ps → PgOKL lo' (descs ++ x) ps
  | [], _ => trivial
  | p :: ps, h => by
    simp only [PgOKL] at h ⊢
    exact ⟨PgOK.mono lo lo' hlo descs x p h.1, PgOKL.mono lo lo' hlo descs x ps h.2⟩
end

mutual
theorem pgOK_mem (lo : Nat) (descs : List PGDesc) : ∀ (p : Param), PgOK lo descs p → ∀ i ∈ pgsOf p, lo ≤ i ∧ i < descs.length
  | .single _ _, _, i, hi => by simp [pgsOf] at hi
  | .grouped _ k _ pg, h, i, hi => by
    simp only [pgsOf, List.mem_singleton] at hi
    subst hi
    simp only [PgOK] at h
    exact ⟨h.1, lt_of_getElem? h.2⟩
  | .object _ fs, h, i, hi => by
    simp only [pgsOf] at hi
    simp only [PgOK] at h
    exact pgOKL_mem lo descs fs h i hi
theorem pgOKL_mem (lo : Nat) (descs : List PGDesc) : ∀ (ps : List Param), PgOKL lo descs ps → ∀ i ∈ pgsOfL ps, lo ≤ i ∧ i < descs.length
  | [], _, i, hi => by simp [pgsOfL] at hi
  | p :: ps, h, i, hi => by
    simp only [pgsOfL, List.mem_append] at hi
    simp only [PgOKL] at h
    rcases hi with hi | hi
    · exact pgOK_mem lo descs p h.1 i hi
    · exact pgOKL_mem lo descs ps h.2 i hi
end

theorem paramRule_link :
    ParamRule (fun s p x => PgOK s.length (s ++ x) p) (fun s ps x => PgOKL s.length (s ++ x) ps) where
  single _ _ _ _ := trivial
  grouped s _ _ _ _ _ := ⟨Nat.le_refl _, by simp⟩
  object h := h
  nil _ := trivial
  cons {s p x ps y} h1 h2 := by
    rw [← List.append_assoc]
    refine ⟨PgOK.mono _ _ (Nat.le_refl _) _ y p h1, ?_⟩
    have := PgOKL.mono _ s.length (by simp) _ [] ps h2
    rwa [List.append_nil] at this

/-- the shape of the `_link` statements: the state grew, and an answer is linked to it -/
theorem Parsed.link {Q : Nat → List PGDesc → α → Prop} {s s' : List PGDesc} {o : Except DErr α × List PGDesc}
    {r : Except DErr α} (h : Parsed (fun s a x => Q s.length (s ++ x) a) s o) (e : o = (r, s')) :
    (∃ x, s' = s ++ x) ∧ ∀ a, r = .ok a → Q s.length s' a := by
  subst e
  obtain ⟨x, rfl, ha⟩ := h
  exact ⟨⟨x, rfl⟩, fun a hr => ha.of_ok hr⟩

theorem newParam_link (env : TyEnv) : ∀ (t : GoT) (s s' : List PGDesc) (r : Except DErr Param), newParam env t s = (r, s') →
    (∃ x, s' = s ++ x) ∧ ∀ p, r = .ok p → PgOK s.length s' p :=
  fun t s _ _ h => (newParam_parsed paramRule_link env t s).link h

theorem newParamFields_link (env : TyEnv) (ignore : Bool) : ∀ (fs : List (FieldMeta × GoT)) (s s' : List PGDesc)
    (r : Except DErr (List Param)), newParamFields env ignore fs s = (r, s') →
    (∃ x, s' = s ++ x) ∧ ∀ ps, r = .ok ps → PgOKL s.length s' ps :=
  fun fs s _ _ h => (newParamFields_parsed paramRule_link env ignore fs s).link h

theorem newParamField_link (env : TyEnv) : ∀ (f : FieldMeta × GoT) (s s' : List PGDesc) (r : Except DErr Param),
    newParamField env f s = (r, s') → (∃ x, s' = s ++ x) ∧ ∀ p, r = .ok p → PgOK s.length s' p :=
  fun f s _ _ h => (newParamField_parsed paramRule_link env f s).link h

theorem newParamListAux_link (env : TyEnv) : ∀ (ts : List GoT) (s s' : List PGDesc) (r : Except DErr (List Param)),
    newParamListAux env ts s = (r, s') → (∃ x, s' = s ++ x) ∧ ∀ ps, r = .ok ps → PgOKL s.length s' ps :=
  fun ts s _ _ h => (newParamListAux_parsed paramRule_link env ts s).link h

def descsOf (st : St) : List PGDesc := st.pgs.map (·.desc)

theorem descsOf_congr {a b : St} (hl : b.pgs.length = a.pgs.length)
    (hd : ∀ i, (b.pgs.getD i default).desc = (a.pgs.getD i default).desc) : descsOf b = descsOf a := by
  apply List.ext_getElem
  · simp [descsOf, hl]
  · intro i h1 h2
    have hb : i < b.pgs.length := by simpa [descsOf] using h1
    have ha : i < a.pgs.length := by simpa [descsOf] using h2
    have := hd i
    simp only [List.getD_eq_getElem?_getD, List.getElem?_eq_getElem hb, List.getElem?_eq_getElem ha, Option.getD_some] at this
    simpa [descsOf] using this

theorem OrdersOnly.params {a b : St} (h : OrdersOnly a b) (n : Nat) : (b.ctor n).params = (a.ctor n).params := by
  obtain ⟨o, e⟩ := h.ctor n
  rw [e]

theorem OrdersOnly.desc {a b : St} (h : OrdersOnly a b) (i : Nat) :
    (b.pgs.getD i default).desc = (a.pgs.getD i default).desc := by
  obtain ⟨o, e⟩ := h.pg i
  rw [e]

theorem OrdersOnly.descsOf {a b : St} (h : OrdersOnly a b) : descsOf b = descsOf a := descsOf_congr h.pgsLen h.desc

structure PG (st : St) : Prop where
  /-- group parameters of registered constructors point at descriptors that describe them -/
  link : ∀ n, n < st.ctors.length → PgOKL 0 (descsOf st) (st.ctor n).params
  /-- ... and their nodes are wherever the constructor's node is -/
  pgIn : ∀ s n i, GNode.ctor n ∈ (st.scope s).gh → i ∈ pgsOfL (st.ctor n).params → GNode.pg i ∈ (st.scope s).gh

theorem PG.init : PG ({} : St) where
  link n hn := by simp at hn
  pgIn s n i h := by cases s <;> simp [St.scope] at h

/-- same constructors (parameters), descriptors only appended, same holders -/
theorem PG.transfer {a b : St} (h : PG a) (hl : b.ctors.length = a.ctors.length)
    (hp : ∀ n, (b.ctor n).params = (a.ctor n).params) (hd : ∃ x, descsOf b = descsOf a ++ x)
    (hg : ∀ s, (b.scope s).gh = (a.scope s).gh) : PG b where
  link n hn := by
    obtain ⟨x, hx⟩ := hd
    rw [hp n, hx]
    exact PgOKL.mono 0 0 (Nat.le_refl _) _ x _ (h.link n (by rw [← hl]; exact hn))
  pgIn s n i hn hi := by
    rw [hg s] at hn ⊢
    rw [hp n] at hi
    exact h.pgIn s n i hn hi

theorem PG.regFrame {a b : St} (h : PG a) (hf : RegFrame a b) : PG b :=
  h.transfer hf.ctorsLen.symm (fun n => (hf.ctorStatic n).params.symm) ⟨[], by simp [descsOf, hf.pgs]⟩
    (fun s => (hf.scopeReg s).gh.symm)

theorem PG.graphSame {a b : St} (h : PG a) (hg : GraphSame a b) : PG b :=
  h.transfer (by rw [hg.ctors]) (fun n => by rw [hg.ctor n]) ⟨[], by simp [descsOf, hg.pgs]⟩ (fun s => (hg.gh s).symm)

theorem PG.eqButVerified {a b : St} (h : PG a) (he : EqButVerified a b) : PG b :=
  h.graphSame (graphSame_of_eqButVerified he)

theorem PG.modScope {w : St} (h : PG w) (s : Nat) (f : ScopeSt → ScopeSt) (hf : ∀ x, (f x).gh = x.gh) : PG (w.modScope s f) :=
  h.transfer rfl (fun _ => rfl) ⟨[], by simp [descsOf, St.modScope]⟩ (fun j => by rw [scope_modScope]; split <;> simp [hf])

theorem PG.addDecos {w : St} (h : PG w) (l : List DecoNode) : PG { w with decos := l } := ⟨h.link, h.pgIn⟩
theorem PG.resetLog {w : St} (h : PG w) : PG { w with log := [] } := ⟨h.link, h.pgIn⟩

theorem GhAdd.descsOf {node : GNode} {a b : St} (h : GhAdd node a b) : descsOf b = descsOf a := h.descs

/-- one step of `newGraphNode`: when a constructor's node enters a holder, the nodes of its group parameters must be there -/
theorem PG.ghStep {w : St} (h : PG w) (node : GNode) (sc : Nat)
    (hnew : ∀ n i, node = .ctor n → sc < w.scopes.length → i ∈ pgsOfL (w.ctor n).params → GNode.pg i ∈ (w.scope sc).gh) :
    PG (Dig.ghStep node w sc) where
  link n hn := by
    rw [(ghStep_ghAdd node w sc).descsOf, (ghStep_ghAdd node w sc).params]
    exact h.link n (by rw [← (ghStep_len node w sc).2.1]; exact hn)
  pgIn s n i hn hi := by
    rw [(ghStep_ghAdd node w sc).params] at hi
    rw [ghStep_scope] at hn ⊢
    by_cases hc : sc = s ∧ s < w.scopes.length
    · rw [if_pos hc] at hn ⊢
      obtain ⟨rfl, hs⟩ := hc
      simp only [List.mem_append, List.mem_singleton] at hn ⊢
      rcases hn with hn | hn
      · exact Or.inl (h.pgIn sc n i hn hi)
      · exact Or.inl (hnew n i hn.symm hs hi)
    · rw [if_neg hc] at hn ⊢
      exact h.pgIn s n i hn hi

theorem PG.foldGhStep (node : GNode) : ∀ (l : List Nat) (w : St), PG w →
    (∀ n i, node = .ctor n → ∀ sc ∈ l, sc < w.scopes.length → i ∈ pgsOfL (w.ctor n).params → GNode.pg i ∈ (w.scope sc).gh) →
    PG (l.foldl (Dig.ghStep node) w) := by
  intro l
  induction l with
  | nil => intro w h _; exact h
  | cons x xs ih =>
    intro w h hnew
    simp only [List.foldl_cons]
    apply ih _ (h.ghStep node x (fun n i hn hs hi => hnew n i hn x (by simp) hs hi))
    intro n i hn sc hsc hlt hi
    rw [(ghStep_ghAdd node w x).params] at hi
    rw [(ghStep_len node w x).1] at hlt
    exact ghStep_gh_mono node w x sc _ (hnew n i hn sc (by simp [hsc]) hlt hi)

theorem PG.newGraphNode {w : St} (h : PG w) (s : Nat) (node : GNode)
    (hnew : ∀ n i, node = .ctor n → ∀ sc ∈ w.subscopes s, sc < w.scopes.length → i ∈ pgsOfL (w.ctor n).params →
      GNode.pg i ∈ (w.scope sc).gh) : PG (w.newGraphNode s node) := by
  rw [newGraphNode_eq]; exact PG.foldGhStep node _ w h hnew

theorem GhOnly.subscopes {a b : St} (h : GhOnly a b) (t : Nat) : b.subscopes t = a.subscopes t :=
  subscopes_congr h.scopesLen.symm (fun j => (h.scope j).2.1.symm) t

/-- what `addPGNodes` leaves behind -/
theorem addPGNodes_facts {w : St} (h : PG w) (s : Nat) (descs : List PGDesc) :
    PG (addPGNodes w s w.pgs.length descs) ∧
    descsOf (addPGNodes w s w.pgs.length descs) = descsOf w ++ descs.drop w.pgs.length ∧
    (addPGNodes w s w.pgs.length descs).scopes.length = w.scopes.length ∧
    (addPGNodes w s w.pgs.length descs).ctors.length = w.ctors.length ∧
    (∀ n, ((addPGNodes w s w.pgs.length descs).ctor n).params = (w.ctor n).params) ∧
    (∀ t, (addPGNodes w s w.pgs.length descs).subscopes t = w.subscopes t) ∧
    (∀ i, w.pgs.length ≤ i → i < descs.length → ∀ sc ∈ w.subscopes s, sc < w.scopes.length →
      GNode.pg i ∈ ((addPGNodes w s w.pgs.length descs).scope sc).gh) := by
  have hd0 : descsOf { w with pgs := w.pgs ++ (descs.drop w.pgs.length).map fun d => ({ desc := d } : PGNode) } =
      descsOf w ++ descs.drop w.pgs.length := by simp [descsOf, List.map_append, Function.comp_def]
  have key := addPGNodes_inv (I := fun k v => PG v ∧ descsOf v = descsOf w ++ descs.drop w.pgs.length ∧ GhOnly w v ∧
      ∀ j, j < k → ∀ sc ∈ w.subscopes s, sc < w.scopes.length → GNode.pg (w.pgs.length + j) ∈ (v.scope sc).gh) w s descs
    ⟨h.transfer rfl (fun _ => rfl) ⟨_, hd0⟩ (fun _ => rfl), hd0,
      GhOnly.refl w, fun j hj => absurd hj (Nat.not_lt_zero _)⟩ ?_
  · obtain ⟨r1, r2, hgo, r8⟩ := key
    refine ⟨r1, r2, hgo.scopesLen.symm, by rw [← hgo.ctors], fun n => by unfold St.ctor; rw [← hgo.ctors], hgo.subscopes, ?_⟩
    intro i hlo hhi sc hsc hlt
    have := r8 (i - w.pgs.length) (by omega) sc hsc hlt
    rwa [show w.pgs.length + (i - w.pgs.length) = i by omega] at this
  · intro k v ⟨a, b, hgo, r⟩ _
    obtain ⟨_, _, g3, g4⟩ := newGraphNode_facts v s (.pg (w.pgs.length + k))
    refine ⟨a.newGraphNode s _ (fun n i hn => by cases hn), by rw [(newGraphNode_ghAdd v s _).descsOf]; exact b,
      hgo.trans (ghOnly_newPG v s _), fun j hj sc hsc hlt => ?_⟩
    rcases Nat.lt_succ_iff_lt_or_eq.mp hj with hj | rfl
    · exact g3 sc _ (r j hj sc hsc hlt)
    · exact g4 sc (by rw [hgo.subscopes]; exact hsc) (by rw [← hgo.scopesLen]; exact hlt)

/-- what the parse of a signature leaves behind: the parsed parameters point at nodes that describe them, and
    those nodes are in the holders of the scope and of all its descendants -/
theorem parseParams_pg {st : St} (h : PG st) (env : TyEnv) (s : Nat) (fn : Fn) :
    PG (parseParams env st s fn).2 ∧
    (∃ x, descsOf (parseParams env st s fn).2 = descsOf st ++ x) ∧
    (parseParams env st s fn).2.ctors.length = st.ctors.length ∧
    (∀ n, ((parseParams env st s fn).2.ctor n).params = (st.ctor n).params) ∧
    ∀ ps, (parseParams env st s fn).1 = .ok ps →
      PgOKL 0 (descsOf (parseParams env st s fn).2) ps ∧
      ∀ i ∈ pgsOfL ps, ∀ sc ∈ st.subscopes s, sc < st.scopes.length → GNode.pg i ∈ ((parseParams env st s fn).2.scope sc).gh := by
  unfold parseParams
  simp only
  have hlen : (st.pgs.map (·.desc)).length = st.pgs.length := by simp
  cases hp : newParamList env fn (st.pgs.map (·.desc)) with
  | mk r descs =>
    simp only
    rw [hlen]
    obtain ⟨⟨x, hx⟩, hok⟩ := newParamListAux_link env _ _ descs r hp
    obtain ⟨a1, a2, a3, a4, a5, a6, a7⟩ := addPGNodes_facts h s descs
    have hdrop : descs.drop st.pgs.length = x := by
      rw [hx, ← hlen]; simp
    have hdescs : descsOf (addPGNodes st s st.pgs.length descs) = descs := by
      rw [a2, hdrop, hx]; rfl
    refine ⟨a1, ⟨x, by rw [a2, hdrop]⟩, a4, a5, ?_⟩
    intro ps hps
    have hl := hok ps hps
    rw [hlen] at hl
    refine ⟨by rw [hdescs]; have := PgOKL.mono st.pgs.length 0 (Nat.zero_le _) descs [] ps hl; simpa using this, ?_⟩
    intro i hi sc hsc hlt
    obtain ⟨b1, b2⟩ := pgOKL_mem st.pgs.length descs ps hl i hi
    exact a7 i b1 b2 sc hsc hlt

theorem PG.addCtor {w : St} (h : PG w) (hg : GM0 w) (node : CtorNode) (hl : PgOKL 0 (descsOf w) node.params) :
    PG { w with ctors := w.ctors ++ [node] } where
  link n hn := by
    show PgOKL 0 (descsOf w) ((w.ctors ++ [node]).getD n default).params
    rw [getD_append_fresh]
    split
    · rename_i h1; exact h.link n h1
    · have : n = w.ctors.length := by simp at hn; omega
      subst this; simp; exact hl
  pgIn s n i hn hi := by
    have hv := hg.bnd s _ hn
    simp only [NodeValid] at hv
    have e : ({ w with ctors := w.ctors ++ [node] } : St).ctor n = w.ctor n := by
      show (w.ctors ++ [node]).getD n default = w.ctors.getD n default
      rw [getD_append_fresh, if_pos hv]
    rw [e] at hi
    exact h.pgIn s n i hn hi

theorem PG.register {st : St} (h : PG st) (hg : GT st) {ctx : Ctx} {fn : Fn} {i s : Nat} {o : ProvideOpts} {target : Nat}
    {params : List Param} {results : List RSlot} {n : Nat} {w : St}
    (hreg : provideRegister ctx fn st i s o = .ok (target, params, results, n, w)) : PG w := by
  obtain ⟨_, w1, _, _, _, _, _, hpp, _, rfl, rfl, _, _, rfl⟩ := provideRegister_ok_eq hreg
  have hw1 := work_parseParams (Work.refl st target) ctx.env fn
  have hg1 := hg.parseParams ctx.env target fn
  obtain ⟨hp1, _, _, _, hps1⟩ := parseParams_pg h ctx.env target fn
  rw [hpp] at hw1 hg1 hp1 hps1
  obtain ⟨hlink, hmem⟩ := hps1 params rfl
  refine ((hp1.addCtor hg1.gm _ hlink).newGraphNode target _ ?_).modScope target _ fun _ => rfl
  -- the nodes of the new constructor's group parameters were put into the same holders by the parse
  intro n j hn sc hsc hlt hj
  injection hn with hn
  subst hn
  rw [show ∀ node, ({ w1 with ctors := w1.ctors ++ [node] } : St).ctor w1.ctors.length = node from fun node => by
    show (w1.ctors ++ [node]).getD w1.ctors.length default = node
    rw [getD_append_fresh]; simp] at hj
  exact hmem j hj sc (by rw [← hw1.subscopes]; exact hsc) (by rw [← hw1.len]; exact hlt)

theorem PG.provide {st : St} (h : PG st) (hg : GT st) (ctx : Ctx) (fn : Fn) (i s : Nat) (o : ProvideOpts) :
    PG (apiProvide ctx fn st i s o).1 :=
  apiProvide_inv (fun _ => h.eqButVerified) (fun _ _ _ _ _ => h.register hg)
    (fun _ l hw => hw.graphSame (graphSame_verifyScopes ctx.cfg l _)) fun _ t _ hw => hw.modScope t _ fun _ => rfl

theorem PG.decorate {st : St} (h : PG st) (ctx : Ctx) (fn : Fn) (i s : Nat) (cb info : Bool) :
    PG (apiDecorate ctx fn st i s cb info).1 :=
  apiDecorate_inv h (parseParams_pg h ctx.env s fn).1 fun _ _ _ hw => (hw.addDecos _).modScope s _ fun _ => rfl

theorem PG.invoke {st : St} (h : PG st) (ctx : Ctx) (fn : Fn) (s : Nat) (info : Bool) : PG (apiInvoke ctx fn st s info).1 :=
  apiInvoke_inv_frame h (parseParams_pg h ctx.env s fn).1 (fun _ hw _ => hw.modScope s _ fun _ => rfl) fun _ _ => PG.regFrame

theorem PG.scope {st : St} (h : PG st) (parent : Nat) : PG (apiScope st parent) := by
  have ho := (apiScope_shape st parent).1
  refine ⟨fun n hn => ?_, fun s n i hn hi => ?_⟩
  · rw [ho.descsOf, ho.params]
    exact h.link n (by rw [← ho.ctorsLen]; exact hn)
  · rw [ho.params] at hi
    rw [apiScope_gh] at hn ⊢
    by_cases hs : s = st.scopes.length
    · rw [if_pos hs] at hn ⊢; exact h.pgIn parent n i hn hi
    · rw [if_neg hs] at hn ⊢; exact h.pgIn s n i hn hi

theorem PG.stepInv (ctx : Ctx) (fns : List Fn) : StepInv ctx fns fun st => GT st ∧ PG st :=
  (GT.stepInv ctx fns).and (fun _ h => h.resetLog) (fun _ p _ h _ _ => h.scope p)
    (fun _ i s _ fn o hg h _ _ _ => h.provide hg ctx fn i s o) (fun _ i s _ fn cb info _ h _ _ _ => h.decorate ctx fn i s cb info)
    (fun _ s _ fn info _ h _ _ _ => h.invoke ctx fn s info)

theorem PG.step {st : St} (h : PG st) (hg : GT st) (ctx : Ctx) (fns : List Fn) (i : Nat) (op : Op) : PG (Dig.step ctx fns st i op).1 :=
  (step_inv (PG.stepInv ctx fns) ⟨hg, h⟩ i op).2

theorem pg_program (p : Program) : PG (runProgram p).1 :=
  (runOps_inv (PG.stepInv p.ctx p.fns) p.ops 0 {} [] ⟨GT.init, PG.init⟩).2

/-- in a closed chain of node dependencies every value-group node follows a constructor of the chain that has it among
    its group parameters -/
theorem closed_chain_group {st : St} {s : Nat} {a : GNode} {l : List GNode} (hl : l ≠ [])
    (hc : NodeChain st s (a :: l)) (hclosed : (a :: l).getLast (by simp) = a) {i : Nat} (hx : GNode.pg i ∈ a :: l) :
    ∃ n, GNode.ctor n ∈ a :: l ∧ i ∈ pgsOfL (st.ctor n).params := by
  -- every element but the first has a predecessor it depends on
  have hpred : ∀ (l : List GNode) (a : GNode), NodeChain st s (a :: l) → ∀ y ∈ l, ∃ x ∈ a :: l, NodeDep st s x y := by
    intro l
    induction l with
    | nil => intro a _ y hy; cases hy
    | cons b rest ih =>
      intro a hc y hy
      obtain ⟨hd, hc'⟩ := hc
      rcases List.mem_cons.mp hy with rfl | hm
      · exact ⟨a, by simp, hd⟩
      · obtain ⟨x, hx, hxd⟩ := ih b hc' y hm
        exact ⟨x, by simp [hx], hxd⟩
  have hlast_mem : a ∈ l := by
    have : (a :: l).getLast (by simp) = l.getLast hl := List.getLast_cons hl
    rw [this] at hclosed
    rw [← hclosed]; exact List.getLast_mem hl
  have hxl : GNode.pg i ∈ l := by
    rcases List.mem_cons.mp hx with h1 | h1
    · rw [h1]; exact hlast_mem
    · exact h1
  obtain ⟨y, hy, hyd⟩ := hpred l a hc _ hxl
  cases hyd with
  | toGroup hi => exact ⟨_, hy, hi⟩

/-- in a closed chain of node dependencies the value-group nodes are in the holder as soon as the constructor nodes are -/
theorem chain_nodes_in_holder {st : St} (hp : PG st) (s : Nat) (a : GNode) (l : List GNode) (hl : l ≠ [])
    (hc : NodeChain st s (a :: l)) (hclosed : (a :: l).getLast (by simp) = a)
    (hin : ∀ n, GNode.ctor n ∈ a :: l → GNode.ctor n ∈ (st.scope s).gh) : ∀ x ∈ a :: l, x ∈ (st.scope s).gh := by
  intro x hx
  cases x with
  | ctor n => exact hin n hx
  | pg i =>
    obtain ⟨n, hn, hi⟩ := closed_chain_group hl hc hclosed hx
    exact hp.pgIn s n i (hin n hn) hi

mutual
/-- the value-group parameters of a parameter tree: group key and graph node -/
def pGroupLeaves : Param → List (Key × Nat)
  | .single _ _ => []
  | .grouped _ k _ pg => [(k, pg)]
  | .object _ fs => pGroupLeavesL fs
def pGroupLeavesL : List Param → List (Key × Nat)
  | [] => []
  | p :: ps => pGroupLeaves p ++ pGroupLeavesL ps
end

mutual
theorem pgOK_leaf (lo : Nat) (descs : List PGDesc) : ∀ (p : Param), PgOK lo descs p → ∀ k pg, (k, pg) ∈ pGroupLeaves p →
    pg ∈ pgsOf p ∧ descs[pg]? = some { group := k.group, elem := k.ty }
  | .single _ _, _, k, pg, hm => by simp [pGroupLeaves] at hm
  | .grouped _ k' _ pg', h, k, pg, hm => by
    simp only [pGroupLeaves, List.mem_singleton, Prod.mk.injEq] at hm
    obtain ⟨rfl, rfl⟩ := hm
    simp only [PgOK] at h
    exact ⟨by simp [pgsOf], h.2⟩
  | .object _ fs, h, k, pg, hm => by
    simp only [pGroupLeaves] at hm
    simp only [PgOK] at h
    simp only [pgsOf]
    exact pgOKL_leaf lo descs fs h k pg hm
theorem pgOKL_leaf (lo : Nat) (descs : List PGDesc) : ∀ (ps : List Param), PgOKL lo descs ps → ∀ k pg, (k, pg) ∈ pGroupLeavesL ps →
    pg ∈ pgsOfL ps ∧ descs[pg]? = some { group := k.group, elem := k.ty }
  | [], _, k, pg, hm => by simp [pGroupLeavesL] at hm
  | p :: ps, h, k, pg, hm => by
    simp only [pGroupLeavesL, List.mem_append] at hm
    simp only [PgOKL] at h
    simp only [pgsOfL, List.mem_append]
    rcases hm with hm | hm
    · obtain ⟨a, b⟩ := pgOK_leaf lo descs p h.1 k pg hm
      exact ⟨Or.inl a, b⟩
    · obtain ⟨a, b⟩ := pgOKL_leaf lo descs ps h.2 k pg hm
      exact ⟨Or.inr a, b⟩
end

/-- the graph node of a value-group parameter of a registered constructor stands for that parameter's group:
    the constructor depends on the node, and the node on every visible provider of `(element type, group)` -/
theorem group_param_node {st : St} (hp : PG st) (n : Nat) (hn : n < st.ctors.length) (k : Key) (pg : Nat)
    (hm : (k, pg) ∈ pGroupLeavesL (st.ctor n).params) (s : Nat) :
    NodeDep st s (.ctor n) (.pg pg) ∧ pgKey st pg = { ty := k.ty, name := "", group := k.group } := by
  obtain ⟨a, b⟩ := pgOKL_leaf 0 (descsOf st) _ (hp.link n hn) k pg hm
  refine ⟨NodeDep.toGroup a, ?_⟩
  unfold pgKey
  have : (st.pgs.getD pg default).desc = { group := k.group, elem := k.ty } := by
    unfold descsOf at b
    rw [List.getElem?_map] at b
    rw [List.getD_eq_getElem?_getD]
    cases hx : st.pgs[pg]? with
    | none => rw [hx] at b; cases b
    | some x => rw [hx] at b; simp at b; simp [b]
  rw [this]

end Dig
