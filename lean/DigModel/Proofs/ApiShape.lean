import DigModel.Proofs.InvokeShape
import DigModel.Proofs.Frame
/-
  What the API calls and the state machine look like from outside: `step` per operation, one induction over
  `runOps` for invariants, for properties of every result and for two runs side by side, `apiInvoke` by stages,
  and what `apiScope` leaves alone.  Invariants of the whole API are lifted through these.
-/
namespace Dig

theorem scope_modScope_keep {α : Type} (g : ScopeSt → α) (st : St) (s : Nat) (f : ScopeSt → ScopeSt)
    (hf : ∀ x, g (f x) = g x) (j : Nat) : g ((st.modScope s f).scope j) = g (st.scope j) := by
  rw [scope_modScope]
  split
  · exact hf _
  · rfl

/-- an update of scope `s` that also reads the scope may read it from the container instead: it bridges lemmas stated with the
    constant `(st.scope s).providers` and the model's `fun x => { x with providers := … x.providers }` -/
theorem modScope_self (st : St) (s : Nat) (f : ScopeSt → ScopeSt → ScopeSt) :
    (st.modScope s fun x => f x x) = st.modScope s fun x => f (st.scope s) x := by
  unfold St.modScope
  congr 1
  apply List.ext_getElem?
  intro j
  simp only [List.getElem?_modify]
  by_cases hj : s = j
  · subst hj
    cases hg : st.scopes[s]? with
    | none => rfl
    | some x =>
      have : st.scope s = x := by unfold St.scope; rw [List.getD_eq_getElem?_getD, hg]; rfl
      simp [this]
  · simp [hj]

theorem step_scope_eq (ctx : Ctx) (fns : List Fn) (st : St) (i p : Nat) (hp : p < st.scopes.length) :
    step ctx fns st i (.scope p) = (apiScope { st with log := [] } p, { v := .ok }) := by
  simp only [step]
  rw [if_pos hp]

theorem step_provide_eq (ctx : Ctx) (fns : List Fn) (st : St) (i sP fP : Nat) (o : ProvideOpts) (fp : Fn)
    (hP : fnOf fns fP = some fp) (hs : sP < st.scopes.length) :
    step ctx fns st i (.provide sP fP o) =
      ((apiProvide ctx fp { st with log := [] } i sP o).1, (apiProvide ctx fp { st with log := [] } i sP o).2.toOpRes) := by
  simp only [step, hP]
  rw [if_pos hs]

theorem step_decorate_eq (ctx : Ctx) (fns : List Fn) (st : St) (i sD fD : Nat) (cb info : Bool) (fd : Fn)
    (hD : fnOf fns fD = some fd) (hs : sD < st.scopes.length) :
    step ctx fns st i (.decorate sD fD cb info) =
      ((apiDecorate ctx fd { st with log := [] } i sD cb info).1, (apiDecorate ctx fd { st with log := [] } i sD cb info).2.toOpRes) := by
  simp only [step, hD]
  rw [if_pos hs]

theorem step_invoke_eq (ctx : Ctx) (fns : List Fn) (st : St) (i s f : Nat) (info : Bool) (fn : Fn)
    (hf : fnOf fns f = some fn) (hs : s < st.scopes.length) :
    step ctx fns st i (.invoke s f info) = apiInvoke ctx fn { st with log := [] } s info := by
  simp only [step, hf]
  rw [if_pos hs]

theorem step_cases (ctx : Ctx) (fns : List Fn) (st : St) (i : Nat) (op : Op) {P : St × OpRes → Prop}
    (hscope : ∀ p, op = .scope p → p < st.scopes.length → P (apiScope { st with log := [] } p, { v := .ok }))
    (hprovide : ∀ s f o fn, op = .provide s f o → fnOf fns f = some fn → s < st.scopes.length →
      P ((apiProvide ctx fn { st with log := [] } i s o).1, (apiProvide ctx fn { st with log := [] } i s o).2.toOpRes))
    (hdecorate : ∀ s f cb info fn, op = .decorate s f cb info → fnOf fns f = some fn → s < st.scopes.length →
      P ((apiDecorate ctx fn { st with log := [] } i s cb info).1,
        (apiDecorate ctx fn { st with log := [] } i s cb info).2.toOpRes))
    (hinvoke : ∀ s f info fn, op = .invoke s f info → fnOf fns f = some fn → s < st.scopes.length →
      P (apiInvoke ctx fn { st with log := [] } s info))
    (hidle : ∀ v, v = .ok ∨ v = .badop → P ({ st with log := [] }, { v := v })) :
    P (step ctx fns st i op) := by
  cases op with
  | scope p =>
    simp only [step]
    split
    · exact hscope p rfl ‹_›
    · exact hidle _ (.inr rfl)
  | provide s f o =>
    simp only [step]
    split
    · split
      · exact hprovide s f o _ rfl ‹_› ‹_›
      · exact hidle _ (.inr rfl)
    · exact hidle _ (.inr rfl)
  | decorate s f cb info =>
    simp only [step]
    split
    · split
      · exact hdecorate s f cb info _ rfl ‹_› ‹_›
      · exact hidle _ (.inr rfl)
    · exact hidle _ (.inr rfl)
  | invoke s f info =>
    simp only [step]
    split
    · split
      · exact hinvoke s f info _ rfl ‹_› ‹_›
      · exact hidle _ (.inr rfl)
    · exact hidle _ (.inr rfl)
  | visualize s e => cases e <;> (simp only [step]; split; exact hidle _ (.inl rfl); exact hidle _ (.inr rfl))
  | string s => simp only [step]; split; exact hidle _ (.inl rfl); exact hidle _ (.inr rfl)

structure StepInv (ctx : Ctx) (fns : List Fn) (I : St → Prop) : Prop where
  reset : ∀ st, I st → I { st with log := [] }
  scope : ∀ st p, I st → st.log = [] → p < st.scopes.length → I (apiScope st p)
  provide : ∀ st i s f fn o, I st → st.log = [] → fnOf fns f = some fn → s < st.scopes.length →
    I (apiProvide ctx fn st i s o).1
  decorate : ∀ st i s f fn cb info, I st → st.log = [] → fnOf fns f = some fn → s < st.scopes.length →
    I (apiDecorate ctx fn st i s cb info).1
  invoke : ∀ st s f fn info, I st → st.log = [] → fnOf fns f = some fn → s < st.scopes.length →
    I (apiInvoke ctx fn st s info).1

theorem step_inv {ctx : Ctx} {fns : List Fn} {I : St → Prop} (H : StepInv ctx fns I) {st : St} (h : I st)
    (i : Nat) (op : Op) : I (step ctx fns st i op).1 := by
  have h0 := H.reset st h
  refine step_cases ctx fns st i op (P := fun x => I x.1) ?_ ?_ ?_ ?_ (fun _ _ => h0)
  · exact fun p _ hp => H.scope _ p h0 rfl hp
  · exact fun s f o fn _ hf hs => H.provide _ i s f fn o h0 rfl hf hs
  · exact fun s f cb info fn _ hf hs => H.decorate _ i s f fn cb info h0 rfl hf hs
  · exact fun s f info fn _ hf hs => H.invoke _ s f fn info h0 rfl hf hs

theorem runOps_cons (ctx : Ctx) (fns : List Fn) (op : Op) (rest : List Op) (i : Nat) (st : St) (acc : List OpRes) :
    runOps ctx fns (op :: rest) i st acc =
      runOps ctx fns rest (i + 1) (step ctx fns st i op).1 ((step ctx fns st i op).2 :: acc) := rfl

theorem runOps_acc (ctx : Ctx) (fns : List Fn) : ∀ (ops : List Op) (i : Nat) (st : St) (acc : List OpRes),
    runOps ctx fns ops i st acc = ((runOps ctx fns ops i st []).1, acc.reverse ++ (runOps ctx fns ops i st []).2)
  | [], i, st, acc => by simp [runOps]
  | op :: rest, i, st, acc => by
    rw [runOps_cons, runOps_cons, runOps_acc ctx fns rest (i + 1) _ ((step ctx fns st i op).2 :: acc),
      runOps_acc ctx fns rest (i + 1) _ [(step ctx fns st i op).2]]
    simp

theorem runOps_cons_nil (ctx : Ctx) (fns : List Fn) (op : Op) (rest : List Op) (i : Nat) (st : St) :
    runOps ctx fns (op :: rest) i st [] =
      ((runOps ctx fns rest (i + 1) (step ctx fns st i op).1 []).1,
        (step ctx fns st i op).2 :: (runOps ctx fns rest (i + 1) (step ctx fns st i op).1 []).2) := by
  rw [runOps_cons, runOps_acc]
  rfl

theorem runOps_inv_all {ctx : Ctx} {fns : List Fn} {I : St → Prop} {P : OpRes → Prop}
    (hstep : ∀ st i op, I st → I (step ctx fns st i op).1 ∧ P (step ctx fns st i op).2) :
    ∀ (ops : List Op) (i : Nat) (st : St) (acc : List OpRes), I st → (∀ r ∈ acc, P r) →
      I (runOps ctx fns ops i st acc).1 ∧ ∀ r ∈ (runOps ctx fns ops i st acc).2, P r
  | [], _, _, _, h, hacc => ⟨h, fun r hr => hacc r (List.mem_reverse.mp hr)⟩
  | op :: rest, i, st, acc, h, hacc => by
    rw [runOps_cons]
    refine runOps_inv_all hstep rest _ _ _ (hstep st i op h).1 fun r hr => ?_
    rcases List.mem_cons.mp hr with e | hr
    · rw [e]; exact (hstep st i op h).2
    · exact hacc r hr

theorem runOps_inv {ctx : Ctx} {fns : List Fn} {I : St → Prop} (H : StepInv ctx fns I) (ops : List Op) (i : Nat)
    (st : St) (acc : List OpRes) (h : I st) : I (runOps ctx fns ops i st acc).1 :=
  (runOps_inv_all (I := I) (P := fun _ => True) (fun _ i op h => ⟨step_inv H h i op, trivial⟩) ops i st acc h
    (fun _ _ => trivial)).1

/-- two programs side by side, where the step simulation may assume `C` of the first run's answer (e.g. "no cycle was
    reported"): if every answer of the first run satisfies `C`, the runs stay related and answer pairwise in `Q` -/
theorem runOps_rel_while {ctx₁ ctx₂ : Ctx} {fns₁ fns₂ : List Fn} {R : St → St → Prop} {Q : OpRes → OpRes → Prop}
    {C : OpRes → Prop}
    (hstep : ∀ a b i op, R a b → C (step ctx₁ fns₁ a i op).2 →
      R (step ctx₁ fns₁ a i op).1 (step ctx₂ fns₂ b i op).1 ∧ Q (step ctx₁ fns₁ a i op).2 (step ctx₂ fns₂ b i op).2) :
    ∀ (ops : List Op) (i : Nat) (a b : St), R a b → (∀ r ∈ (runOps ctx₁ fns₁ ops i a []).2, C r) →
      R (runOps ctx₁ fns₁ ops i a []).1 (runOps ctx₂ fns₂ ops i b []).1 ∧
      (runOps ctx₁ fns₁ ops i a []).2.length = (runOps ctx₂ fns₂ ops i b []).2.length ∧
      ∀ p ∈ (runOps ctx₁ fns₁ ops i a []).2.zip (runOps ctx₂ fns₂ ops i b []).2, Q p.1 p.2 := by
  intro ops
  induction ops with
  | nil => exact fun _ _ _ h _ => ⟨h, rfl, fun _ hp => nomatch hp⟩
  | cons op rest ih =>
    intro i a b h hC
    rw [runOps_cons_nil] at hC
    rw [runOps_cons_nil, runOps_cons_nil]
    have hs := hstep a b i op h (hC _ List.mem_cons_self)
    obtain ⟨ih1, ih2, ih3⟩ := ih (i + 1) _ _ hs.1 fun r hr => hC r (List.mem_cons_of_mem _ hr)
    refine ⟨ih1, by rw [List.length_cons, List.length_cons, ih2], fun p hp => ?_⟩
    rw [List.zip_cons_cons] at hp
    rcases List.mem_cons.mp hp with e | hp
    · rw [e]; exact hs.2
    · exact ih3 p hp

theorem runOps_rel {ctx₁ ctx₂ : Ctx} {fns₁ fns₂ : List Fn} {R : St → St → Prop} {Q : OpRes → OpRes → Prop}
    (hstep : ∀ a b i op, R a b → R (step ctx₁ fns₁ a i op).1 (step ctx₂ fns₂ b i op).1 ∧
      Q (step ctx₁ fns₁ a i op).2 (step ctx₂ fns₂ b i op).2)
    (ops : List Op) (i : Nat) (a b : St) (h : R a b) :
    R (runOps ctx₁ fns₁ ops i a []).1 (runOps ctx₂ fns₂ ops i b []).1 ∧
    (runOps ctx₁ fns₁ ops i a []).2.length = (runOps ctx₂ fns₂ ops i b []).2.length ∧
    ∀ p ∈ (runOps ctx₁ fns₁ ops i a []).2.zip (runOps ctx₂ fns₂ ops i b []).2, Q p.1 p.2 :=
  runOps_rel_while (C := fun _ => True) (fun a b i op h _ => hstep a b i op h) ops i a b h fun _ _ => trivial

theorem invokeCheck_ok {w w3 : St} {s : Nat} (h : invokeCheck w s = .ok w3) :
    w3 = w ∨ (checkAcyclic w s = .acyclic ∧ w3 = w.modScope s fun x => { x with verified := true }) := by
  unfold invokeCheck at h
  split at h
  · injection h with e; exact Or.inl e.symm
  · split at h
    · injection h with e; exact Or.inr ⟨‹_›, e.symm⟩
    · cases h
    · cases h

theorem apiInvoke_cases {ctx : Ctx} {fn : Fn} {st : St} {s : Nat} {info : Bool} {P : St × OpRes → Prop}
    (hnf : ∀ nf, fn.nonfunc = some nf → P (st, { v := .err .invalid0 }))
    (hroll : fn.nonfunc = none → ∀ e w, parseParams ctx.env st s fn = (.error e, w) →
      P (rollbackProvide st w s (st.subscopes s), { v := .err e }))
    (hmiss : fn.nonfunc = none → ∀ params w k ks, parseParams ctx.env st s fn = (.ok params, w) →
      missingOfList w s params = k :: ks → P (w, { v := .err (.missingDeps (.missingTypes (k :: ks))) }))
    (hcheck : fn.nonfunc = none → ∀ params w v, parseParams ctx.env st s fn = (.ok params, w) →
      missingOfList w s params = [] → invokeCheck w s = .error v → P (w, { v := v }))
    (hrun : fn.nonfunc = none → ∀ params w w3, parseParams ctx.env st s fn = (.ok params, w) →
      missingOfList w s params = [] → invokeCheck w s = .ok w3 → P (invokeRun ctx fn params s info w3)) :
    P (apiInvoke ctx fn st s info) := by
  rw [apiInvoke_eq]
  unfold apiInvoke'
  split
  · exact hnf _ ‹_›
  · rename_i hf
    split
    · exact hroll hf _ _ ‹_›
    · rename_i params w hpp
      unfold shallowCheck
      cases hm : missingOfList w s params with
      | cons k ks => exact hmiss hf params w k ks hpp hm
      | nil =>
        simp only
        cases hck : invokeCheck w s with
        | error v => exact hcheck hf params w v hpp hm hck
        | ok w3 => exact hrun hf params w w3 hpp hm hck

theorem invokeRun_inv {I : St → Prop} {ctx : Ctx} {fn : Fn} {params : List Param} {s : Nat} {info : Bool} {w : St}
    (hbuild : I (buildList ctx (engineFuel w params) params s w).2)
    (hcall : ∀ args w4, buildList ctx (engineFuel w params) params s w = (.ok args, w4) →
      I (callBody ctx .invoked fn args w4).2) :
    I (invokeRun ctx fn params s info w).1 := by
  unfold invokeRun
  have h2 := wrapErr_state (buildList ctx (engineFuel w params) params s) .argsFailed w
  cases hbl : EM.wrapErr (buildList ctx (engineFuel w params) params s) .argsFailed w with
  | mk r w4 =>
    cases r with
    | error f => rw [hbl] at h2; rw [← h2] at hbuild; exact hbuild
    | ok args => exact hcall args w4 (wrapErr_ok _ hbl)

structure OrdersOnly (a b : St) : Prop where
  decos : b.decos = a.decos
  execs : b.execs = a.execs
  clock : b.clock = a.clock
  log : b.log = a.log
  hist : b.hist = a.hist
  ctorsLen : b.ctors.length = a.ctors.length
  ctor : ∀ n, ∃ o, b.ctor n = { a.ctor n with orders := o }
  pgsLen : b.pgs.length = a.pgs.length
  pg : ∀ i, ∃ o, b.pgs.getD i default = { a.pgs.getD i default with orders := o }

theorem OrdersOnly.refl (a : St) : OrdersOnly a a :=
  ⟨rfl, rfl, rfl, rfl, rfl, rfl, fun _ => ⟨_, rfl⟩, rfl, fun _ => ⟨_, rfl⟩⟩

theorem OrdersOnly.trans {a b c : St} (h1 : OrdersOnly a b) (h2 : OrdersOnly b c) : OrdersOnly a c := by
  refine ⟨h2.decos.trans h1.decos, h2.execs.trans h1.execs, h2.clock.trans h1.clock, h2.log.trans h1.log,
    h2.hist.trans h1.hist, h2.ctorsLen.trans h1.ctorsLen, fun n => ?_, h2.pgsLen.trans h1.pgsLen, fun i => ?_⟩
  · obtain ⟨o1, e1⟩ := h1.ctor n
    obtain ⟨o2, e2⟩ := h2.ctor n
    exact ⟨o2, by rw [e2, e1]⟩
  · obtain ⟨o1, e1⟩ := h1.pg i
    obtain ⟨o2, e2⟩ := h2.pg i
    exact ⟨o2, by rw [e2, e1]⟩

theorem copyOrder_ordersOnly (child parent : Nat) (w : St) (x : GNode) :
    OrdersOnly w (copyOrder child parent w x) ∧ (copyOrder child parent w x).scopes = w.scopes := by
  cases x with
  | ctor m =>
    refine ⟨⟨rfl, rfl, rfl, rfl, rfl, List.length_modify _ _ _, fun n => ?_, rfl, fun _ => ⟨_, rfl⟩⟩, rfl⟩
    simp only [copyOrder]
    rw [ctor_modCtor]
    split
    · exact ⟨_, rfl⟩
    · exact ⟨_, rfl⟩
  | pg j =>
    refine ⟨⟨rfl, rfl, rfl, rfl, rfl, rfl, fun _ => ⟨_, rfl⟩, List.length_modify _ _ _, fun i => ?_⟩, rfl⟩
    simp only [copyOrder]
    rw [getD_modify]
    split
    · exact ⟨_, rfl⟩
    · exact ⟨_, rfl⟩

theorem copyOrder_fold_ordersOnly (child parent : Nat) : ∀ (l : List GNode) (w : St),
    OrdersOnly w (l.foldl (copyOrder child parent) w) ∧ (l.foldl (copyOrder child parent) w).scopes = w.scopes
  | [], w => ⟨OrdersOnly.refl w, rfl⟩
  | x :: xs, w =>
    have h1 := copyOrder_ordersOnly child parent w x
    have h2 := copyOrder_fold_ordersOnly child parent xs (copyOrder child parent w x)
    ⟨h1.1.trans h2.1, h2.2.trans h1.2⟩

theorem apiScope_shape (st : St) (parent : Nat) :
    OrdersOnly st (apiScope st parent) ∧
    (apiScope st parent).scopes =
      (st.scopes ++ [({ parent := some parent, gh := (st.scope parent).gh } : ScopeSt)]).modify parent
        fun x => { x with children := x.children ++ [st.scopes.length] } :=
  have h := copyOrder_fold_ordersOnly st.scopes.length parent (st.scope parent).gh
    (St.modScope { st with scopes := st.scopes ++ [{ parent := some parent, gh := (st.scope parent).gh }] } parent
      fun x => { x with children := x.children ++ [st.scopes.length] })
  ⟨⟨h.1.decos, h.1.execs, h.1.clock, h.1.log, h.1.hist, h.1.ctorsLen, h.1.ctor, h.1.pgsLen, h.1.pg⟩, h.2⟩

theorem apiScope_scope_keep {α : Type} (g : ScopeSt → α) (st : St) (parent : Nat)
    (hch : ∀ (x : ScopeSt) l, g { x with children := l } = g x)
    (hnew : g ({ parent := some parent, gh := (st.scope parent).gh } : ScopeSt) = g { parent := none }) (j : Nat) :
    g ((apiScope st parent).scope j) = g (st.scope j) := by
  show g ((apiScope st parent).scopes.getD j { parent := none }) = _
  rw [(apiScope_shape st parent).2, getD_modify]
  have e : g ((st.scopes ++ [({ parent := some parent, gh := (st.scope parent).gh } : ScopeSt)]).getD j
      { parent := none }) = g (st.scope j) := by
    rw [getD_snoc]
    split
    · rfl
    · rw [scope_ge_len st j (by omega)]
      split
      · exact hnew
      · rfl
  split
  · rw [hch]; exact e
  · exact e

end Dig
