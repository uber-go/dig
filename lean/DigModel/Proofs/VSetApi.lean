import DigModel.Proofs.VSet
import DigModel.Proofs.Rollback
import DigModel.Proofs.ProvideStages
import DigModel.Proofs.DrySimApi
import DigModel.Proofs.DecorateShape
/-
  Containers equal up to the `isVerifiedAcyclic` flags are reassignments of each other's flags (`vset`).  The
  registration stage of Provide and `Scope` commute with any rewriting of the scopes that keeps what they read and
  commutes with what they write (`St.remap`, `RegBlind`): `vset` is one, the replacement of the decorator tables
  (`DecoCommute.lean`) another.
-/
namespace Dig

theorem vset_eqV (g : Nat → Bool) (st : St) : EqButVerified st (vset g st) :=
  ⟨rfl, rfl, rfl, rfl, rfl, rfl, rfl, (vset_len g st).symm, fun j => by
    rw [vset_scope]
    split <;> exact ⟨rfl, rfl, rfl, rfl, rfl, rfl, rfl, rfl, rfl, rfl⟩⟩

theorem eqV_vset {a b : St} (h : EqButVerified a b) : b = vset (fun j => (b.scope j).verified) a := by
  refine (st_ext_of _ _ ((vset_eqV _ a).symm'.trans' h) fun j => ?_).symm
  rw [vset_scope]
  split
  · rfl
  · rename_i hj
    rw [scope_ge_len a j (Nat.le_of_not_lt hj), scope_ge_len b j (h.scopesLen ▸ Nat.le_of_not_lt hj)]

theorem eqV_exists_vset {a b : St} (h : EqButVerified a b) : ∃ g, b = vset g a := ⟨_, eqV_vset h⟩

theorem eqV_resetLog {a b : St} (h : EqButVerified a b) : EqButVerified { a with log := [] } { b with log := [] } := by
  obtain ⟨h1, h2, h3, h4, h5, h6, h7, h8, h9⟩ := h
  exact ⟨h1, h2, h3, h4, h5, rfl, h7, h8, h9⟩

def St.remap (u : Nat → ScopeSt → ScopeSt) (f : List DecoNode → List DecoNode) (st : St) : St :=
  { st.mapScopes u with decos := f st.decos }

structure RegBlind (u : Nat → ScopeSt → ScopeSt) : Prop where
  children : ∀ j x, (u j x).children = x.children
  providers : ∀ j x, (u j x).providers = x.providers
  gh : ∀ j x, (u j x).gh = x.gh
  setChildren : ∀ j x (g : List Nat → List Nat), u j { x with children := g x.children } = { u j x with children := g (u j x).children }
  setProviders : ∀ j x (g : List (Key × List Nat) → List (Key × List Nat)),
    u j { x with providers := g x.providers } = { u j x with providers := g (u j x).providers }
  setGh : ∀ j x (g : List GNode → List GNode), u j { x with gh := g x.gh } = { u j x with gh := g (u j x).gh }

section
variable (u : Nat → ScopeSt → ScopeSt) (f : List DecoNode → List DecoNode)

@[simp] theorem remap_ctors (st : St) : (st.remap u f).ctors = st.ctors := rfl

theorem remap_len (st : St) : (st.remap u f).scopes.length = st.scopes.length := mapScopes_len u st

theorem remap_scope (st : St) (j : Nat) :
    (st.remap u f).scope j = if j < st.scopes.length then u j (st.scope j) else st.scope j := mapScopes_scope u st j

theorem remap_read {α : Type} (r : ScopeSt → α) (hr : ∀ j x, r (u j x) = r x) (st : St) (j : Nat) :
    r ((st.remap u f).scope j) = r (st.scope j) := mapScopes_read u r hr st j

theorem remap_modScope (st : St) (s : Nat) (g : ScopeSt → ScopeSt) (hg : ∀ x, g (u s x) = u s (g x)) :
    (st.remap u f).modScope s g = (st.modScope s g).remap u f :=
  congrArg (fun y : St => { y with decos := f st.decos }) (mapScopes_modScope u st s g hg)

theorem remap_copyOrder (child parent : Nat) (st : St) (x : GNode) :
    copyOrder child parent (st.remap u f) x = (copyOrder child parent st x).remap u f := by
  cases x <;> rfl

variable {u} (H : RegBlind u)
include H

theorem remap_subscopes (st : St) (s : Nat) : (st.remap u f).subscopes s = st.subscopes s :=
  subscopes_congr (remap_len u f st) (remap_read u f (·.children) H.children st) s

theorem remap_ghStep (node : GNode) (st : St) (sc : Nat) : ghStep node (st.remap u f) sc = (ghStep node st sc).remap u f := by
  unfold ghStep
  rw [remap_read u f (·.gh) H.gh, remap_modScope u f st sc _ fun x => (H.setGh sc x (· ++ [node])).symm]
  cases node <;> rfl

theorem remap_newGraphNode (st : St) (s : Nat) (node : GNode) :
    (st.remap u f).newGraphNode s node = (st.newGraphNode s node).remap u f := by
  rw [newGraphNode_eq, newGraphNode_eq, remap_subscopes f H]
  generalize st.subscopes s = l
  induction l generalizing st with
  | nil => rfl
  | cons x xs ih => rw [List.foldl_cons, List.foldl_cons, remap_ghStep f H]; exact ih _

theorem remap_addPGNodes (st : St) (s oldLen : Nat) (descs : List PGDesc) :
    addPGNodes (st.remap u f) s oldLen descs = (addPGNodes st s oldLen descs).remap u f := by
  unfold addPGNodes
  show List.foldl _ (St.remap u f { st with pgs := st.pgs ++ (descs.drop oldLen).map fun d => ({ desc := d } : PGNode) }) _ = _
  generalize ({ st with pgs := st.pgs ++ (descs.drop oldLen).map fun d => ({ desc := d } : PGNode) } : St) = v
  generalize List.range (descs.length - oldLen) = l
  induction l generalizing v with
  | nil => rfl
  | cons x xs ih => rw [List.foldl_cons, List.foldl_cons, remap_newGraphNode f H]; exact ih _

theorem remap_parseParams (env : TyEnv) (st : St) (s : Nat) (fn : Fn) :
    parseParams env (st.remap u f) s fn = ((parseParams env st s fn).1, (parseParams env st s fn).2.remap u f) := by
  unfold parseParams
  exact congrArg (Prod.mk _) (remap_addPGNodes f H st s _ _)

theorem remap_rollbackProvide (st0 w : St) (target : Nat) (scopes : List Nat) :
    rollbackProvide (st0.remap u f) (w.remap u f) target scopes = (rollbackProvide st0 w target scopes).remap u f := by
  unfold rollbackProvide
  have hfold : ∀ (l : List Nat) (v : St),
      l.foldl (fun w sc => w.modScope sc fun x => { x with gh := x.gh.take ((st0.remap u f).scope sc).gh.length }) (v.remap u f) =
      (l.foldl (fun w sc => w.modScope sc fun x => { x with gh := x.gh.take (st0.scope sc).gh.length }) v).remap u f := by
    intro l
    induction l with
    | nil => intro v; rfl
    | cons x xs ih =>
      intro v
      rw [List.foldl_cons, List.foldl_cons, remap_read u f (·.gh) H.gh,
        remap_modScope u f v x _ fun y => (H.setGh x y (·.take _)).symm]
      exact ih _
  simp only [hfold, remap_read u f (·.providers) H.providers]
  rw [remap_modScope u f _ target _ fun y => (H.setProviders target y fun _ => _).symm]
  rfl

theorem remap_provideRegister (ctx : Ctx) (fn : Fn) (st : St) (i s : Nat) (o : ProvideOpts) :
    provideRegister ctx fn (st.remap u f) i s o =
      match provideRegister ctx fn st i s o with
      | .error r => .error (r.1.remap u f, r.2)
      | .ok (target, params, results, n, w) => .ok (target, params, results, n, w.remap u f) := by
  unfold provideRegister
  cases fn.nonfunc with
  | some _ => rfl
  | none =>
    simp only
    cases validateOpts ctx.env o with
    | error e => rfl
    | ok as =>
      simp only [remap_subscopes f H]
      rw [remap_parseParams f H]
      generalize (if o.export_ then St.root else s) = target
      cases parseParams ctx.env st target fn with
      | mk r w1 =>
        cases r with
        | error e => simp only; rw [remap_rollbackProvide f H]
        | ok params =>
          simp only
          cases newResultList ctx.env { name := o.name, group := o.group, as := as } fn with
          | error e => simp only; rw [remap_rollbackProvide f H]
          | ok results =>
            simp only [remap_ctors]
            have e1 : ({ w1.remap u f with ctors := w1.ctors ++ [({ fn := fn, params := params, results := results, s := target, origS := s, cb := if o.cb then some i else none } : CtorNode)] } : St) =
                St.remap u f { w1 with ctors := w1.ctors ++ [({ fn := fn, params := params, results := results, s := target, origS := s, cb := if o.cb then some i else none } : CtorNode)] } := rfl
            rw [e1, remap_newGraphNode f H]
            generalize St.newGraphNode { w1 with ctors := w1.ctors ++ [_] } target (.ctor w1.ctors.length) = w3
            rw [visitKeys_congr _ _ (remap_read u f (·.providers) H.providers w3 target)]
            cases visitKeys (w3.scope target) (slotResults results) [] with
            | error e => simp only; rw [remap_rollbackProvide f H]
            | ok keys =>
              cases keys with
              | nil => simp only; rw [remap_rollbackProvide f H]
              | cons k0 ks =>
                simp only
                rw [remap_modScope u f w3 _ _ fun y => (H.setProviders target y fun m => List.foldl _ m _).symm]

theorem remap_regStage {Rel : St → St → Prop} (hR : ∀ x, Rel x (x.remap u f)) (ctx : Ctx) (fn : Fn) (st : St) (i s : Nat)
    (o : ProvideOpts) :
    RegStage Rel (provideRegister ctx fn st i s o) (provideRegister ctx fn (st.remap u f) i s o) := by
  rw [remap_provideRegister f H]
  cases provideRegister ctx fn st i s o with
  | error r => exact ⟨hR _, rfl⟩
  | ok x => exact ⟨rfl, rfl, rfl, rfl, hR _⟩

theorem remap_apiScope (st : St) (parent : Nat)
    (hnew : ∀ l, u st.scopes.length { parent := some parent, gh := l } = { parent := some parent, gh := l }) :
    apiScope (st.remap u f) parent = (apiScope st parent).remap u f := by
  unfold apiScope
  simp only [remap_len, remap_read u f (·.gh) H.gh st parent]
  have e1 : ({ st.remap u f with scopes := (st.remap u f).scopes ++ [({ parent := some parent, gh := (st.scope parent).gh } : ScopeSt)] } : St) =
      St.remap u f { st with scopes := st.scopes ++ [({ parent := some parent, gh := (st.scope parent).gh } : ScopeSt)] } := by
    unfold St.remap St.mapScopes
    simp only [List.mapIdx_append, List.mapIdx_cons, List.mapIdx_nil, Nat.zero_add, hnew]
  rw [e1, remap_modScope u f _ parent _ fun x => (H.setChildren parent x (· ++ [st.scopes.length])).symm]
  generalize (St.modScope { st with scopes := st.scopes ++ [_] } parent _) = v
  generalize (st.scope parent).gh = l
  induction l generalizing v with
  | nil => rfl
  | cons x xs ih => rw [List.foldl_cons, List.foldl_cons, remap_copyOrder]; exact ih _

end

theorem verified_regBlind (g : Nat → Bool) : RegBlind fun j x => { x with verified := g j } :=
  ⟨fun _ _ => rfl, fun _ _ => rfl, fun _ _ => rfl, fun _ _ _ => rfl, fun _ _ _ => rfl, fun _ _ _ => rfl⟩

theorem vset_subscopes (g : Nat → Bool) (st : St) (s : Nat) : (vset g st).subscopes s = st.subscopes s :=
  remap_subscopes id (verified_regBlind g) st s

theorem vset_parseParams (g : Nat → Bool) (env : TyEnv) (st : St) (s : Nat) (fn : Fn) :
    Dig.parseParams env (vset g st) s fn = ((Dig.parseParams env st s fn).1, vset g (Dig.parseParams env st s fn).2) :=
  remap_parseParams id (verified_regBlind g) env st s fn

theorem vset_rollbackProvide (g : Nat → Bool) (st0 w : St) (target : Nat) (scopes : List Nat) :
    rollbackProvide (vset g st0) (vset g w) target scopes = vset g (rollbackProvide st0 w target scopes) :=
  remap_rollbackProvide id (verified_regBlind g) st0 w target scopes

theorem vset_provideRegister (g : Nat → Bool) (ctx : Ctx) (fn : Fn) (st : St) (i s : Nat) (o : ProvideOpts) :
    provideRegister ctx fn (vset g st) i s o =
      match provideRegister ctx fn st i s o with
      | .error r => .error (vset g r.1, r.2)
      | .ok (target, params, results, n, w) => .ok (target, params, results, n, vset g w) :=
  remap_provideRegister id (verified_regBlind g) ctx fn st i s o

theorem vset_apiDecorate (g : Nat → Bool) (ctx : Ctx) (fn : Fn) (st : St) (i s : Nat) (cb info : Bool) :
    apiDecorate ctx fn (vset g st) i s cb info =
      (vset g (apiDecorate ctx fn st i s cb info).1, (apiDecorate ctx fn st i s cb info).2) := by
  cases hnf : fn.nonfunc with
  | some v => rw [apiDecorate_nonfunc ctx fn _ i s cb info hnf, apiDecorate_nonfunc ctx fn _ i s cb info hnf]
  | none =>
    cases hD : Dig.parseParams ctx.env st s fn with
    | mk r w =>
      have hD' : Dig.parseParams ctx.env (vset g st) s fn = (r, vset g w) := by rw [vset_parseParams, hD]
      rw [apiDecorate_eq ctx fn _ i s cb info hnf r _ hD', apiDecorate_eq ctx fn _ i s cb info hnf r _ hD,
        vset_read (·.decorators) (fun _ _ => rfl) g w s]
      cases decoDecide ctx fn i s cb info r (w.scope s).decorators with
      | error e => rfl
      | ok x =>
        show (St.modScope (vset g { w with decos := w.decos ++ [x.1] }) s _, _) = _
        rw [vset_modScope g _ s _ (fun _ _ => rfl)]
        rfl

theorem eqV_apiScope {a b : St} (h : EqButVerified a b) (parent : Nat) (hp : parent < a.scopes.length) :
    EqButVerified (apiScope a parent) (apiScope b parent) := by
  have hnew : (b.scope a.scopes.length).verified = false := by
    rw [scope_ge_len b _ (Nat.le_of_eq h.scopesLen.symm)]
  obtain ⟨g, hg, rfl⟩ : ∃ g : Nat → Bool, g a.scopes.length = false ∧ b = vset g a := ⟨_, hnew, eqV_vset h⟩
  have e : apiScope (vset g a) parent = vset g (apiScope a parent) :=
    remap_apiScope id (verified_regBlind g) a parent fun l => by simp only [hg]
  rw [e]
  exact vset_eqV g _

end Dig
