import DigModel.Proofs.Body
import DigModel.Proofs.Frame
import DigModel.Proofs.AList
/-
  Provenance: every token that sits in a cache of the container, and every token handed to a user
  function as (part of) an argument, was returned by an execution of a constructor's or decorator's
  function that had *already ended successfully* at that moment.  Here: the invariant `Prov` with the
  notions it is made of, and how it moves when the history grows or one scope is rewritten.
-/
namespace Dig

mutual
def Val.toks : Val → List (Nat × Nat)
  | .tok f x _ _ => [(f, x)]
  | .zero _ => []
  | .int _ => []
  | .sl xs => Val.toksL xs
  | .obj xs => Val.toksL xs
def Val.toksL : List Val → List (Nat × Nat)
  | [] => []
  | v :: vs => v.toks ++ Val.toksL vs
end

theorem mem_toksL {p : Nat × Nat} : ∀ {vs : List Val}, p ∈ Val.toksL vs ↔ ∃ v ∈ vs, p ∈ v.toks
  | [] => by simp [Val.toksL]
  | v :: vs => by
    simp only [Val.toksL, List.mem_append, List.mem_cons, exists_eq_or_imp, mem_toksL (vs := vs)]

def OkExec (h : List Event) (p : Nat × Nat) : Prop :=
  ∃ who, who ≠ Who.invoked ∧ Event.exit who p.1 p.2 .ok ∈ h

def ValOk (h : List Event) (v : Val) : Prop := ∀ p ∈ v.toks, OkExec h p
def ValsOk (h : List Event) (vs : List Val) : Prop := ∀ v ∈ vs, ValOk h v

theorem OkExec.mono {h : List Event} {p : Nat × Nat} (l : List Event) (hp : OkExec h p) : OkExec (h ++ l) p := by
  obtain ⟨w, hw, hm⟩ := hp
  exact ⟨w, hw, List.mem_append_left _ hm⟩

theorem ValOk.mono {h : List Event} {v : Val} (l : List Event) (hv : ValOk h v) : ValOk (h ++ l) v :=
  fun p hp => (hv p hp).mono l

theorem ValsOk.mono {h : List Event} {vs : List Val} (l : List Event) (hv : ValsOk h vs) : ValsOk (h ++ l) vs :=
  fun v hm => (hv v hm).mono l

theorem valOk_sl {h : List Event} {xs : List Val} : ValOk h (.sl xs) ↔ ValsOk h xs := by
  unfold ValOk ValsOk ValOk
  simp only [Val.toks, mem_toksL]
  constructor
  · intro hh v hv p hp; exact hh p ⟨v, hv, hp⟩
  · intro hh p ⟨v, hv, hp⟩; exact hh v hv p hp

theorem valOk_obj {h : List Event} {xs : List Val} : ValOk h (.obj xs) ↔ ValsOk h xs := valOk_sl

theorem valOk_zero (h : List Event) (ty : Nat) : ValOk h (.zero ty) := by
  intro p hp; simp [Val.toks] at hp

theorem valOk_zeroVal (h : List Event) (env : TyEnv) (ty : Nat) : ValOk h (zeroVal env ty) := by
  unfold zeroVal
  split
  · rw [valOk_sl]; intro v hv; cases hv
  · exact valOk_zero h ty

theorem toks_mkAtom (env : TyEnv) (f x slot i ty : Nat) : ∀ p ∈ (mkAtom env f x slot i ty).toks, p = (f, x) := by
  intro p hp
  unfold mkAtom at hp
  split at hp
  · simp [Val.toks] at hp
  · split at hp
    · simpa [Val.toks] using hp
    · simpa [Val.toks] using hp
    · simpa [Val.toks] using hp
    · simp [Val.toks, Val.toksL] at hp
    · split at hp <;> simp [Val.toks] at hp

theorem toks_mkVal (env : TyEnv) (f x slot len ty : Nat) : ∀ p ∈ (mkVal env f x slot len ty).toks, p = (f, x) := by
  intro p hp
  unfold mkVal at hp
  split at hp
  · -- zero values carry no token
    exfalso
    split at hp
    · simp only [Val.toks, mem_toksL, List.mem_map, List.mem_range] at hp
      obtain ⟨v, ⟨i, _, rfl⟩, hv⟩ := hp
      obtain ⟨_, _, hm⟩ := valOk_zeroVal [] env _ p hv
      cases hm
    · obtain ⟨_, _, hm⟩ := valOk_zeroVal [] env _ p hp
      cases hm
  · split at hp
    · simp only [Val.toks, mem_toksL, List.mem_map, List.mem_range] at hp
      obtain ⟨v, ⟨i, _, rfl⟩, hv⟩ := hp
      split at hv
      · simp only [Val.toks, Val.toksL, List.append_nil] at hv
        exact toks_mkAtom env f x slot i _ p hv
      · exact toks_mkAtom env f x slot i _ p hv
    · exact toks_mkAtom env f x slot 0 ty p hp

theorem valOk_retVal (env : TyEnv) (h : List Event) (r : Ret) (slot decl : Nat)
    (hr : r.dry = false → OkExec h (r.f, r.x)) : ValOk h (r.val env slot decl) := by
  unfold Ret.val
  cases hd : r.dry with
  | true => simp only [if_true]; exact valOk_zeroVal h env decl
  | false =>
    simp only [Bool.false_eq_true, if_false]
    intro p hp
    rw [toks_mkVal env r.f r.x slot r.len decl p hp]
    exact hr hd

theorem valsOk_elemsOf {h : List Event} {v : Val} (hv : ValOk h v) : ValsOk h (elemsOf v) := by
  unfold elemsOf
  split
  · exact valOk_sl.mp hv
  · intro v hm; cases hm

def ArgsOk (h : List Event) : Prop :=
  ∀ i w f x args, h[i]? = some (.enter w f x args) → ValsOk (h.take i) args

theorem argsOk_nil : ArgsOk [] := by
  intro i w f x args hi; simp at hi

theorem argsOk_snoc {h : List Event} {e : Event} (hh : ArgsOk h)
    (he : ∀ w f x args, e = .enter w f x args → ValsOk h args) : ArgsOk (h ++ [e]) := by
  intro i w f x args hi
  rcases getElem?_snoc hi with h1 | ⟨rfl, h1⟩
  · rw [List.take_append_of_le_length (Nat.le_of_lt (List.getElem?_eq_some_iff.1 h1).1)]
    exact hh i w f x args h1
  · rw [List.take_left' rfl]
    exact he w f x args h1.symm

structure ScopeOk (h : List Event) (sc : ScopeSt) : Prop where
  values : ∀ k v, aget sc.values k = some v → ValOk h v
  dvalues : ∀ k v, aget sc.decoratedValues k = some v → ValOk h v
  groups : ∀ k v, v ∈ agetL sc.groups k → ValOk h v
  dgroups : ∀ k v, aget sc.decoratedGroups k = some v → ValOk h v

theorem ScopeOk.mono {h : List Event} {sc : ScopeSt} (l : List Event) (hs : ScopeOk h sc) : ScopeOk (h ++ l) sc where
  values k v hv := (hs.values k v hv).mono l
  dvalues k v hv := (hs.dvalues k v hv).mono l
  groups k v hv := (hs.groups k v hv).mono l
  dgroups k v hv := (hs.dgroups k v hv).mono l

theorem ScopeOk.of_caches {h : List Event} {a b : ScopeSt} (hs : ScopeOk h a)
    (hc : b.values = a.values ∧ b.decoratedValues = a.decoratedValues ∧ b.groups = a.groups ∧
      b.decoratedGroups = a.decoratedGroups) : ScopeOk h b where
  values k v hv := by rw [hc.1] at hv; exact hs.values k v hv
  dvalues k v hv := by rw [hc.2.1] at hv; exact hs.dvalues k v hv
  groups k v hv := by rw [hc.2.2.1] at hv; exact hs.groups k v hv
  dgroups k v hv := by rw [hc.2.2.2] at hv; exact hs.dgroups k v hv

theorem scopeOk_empty (h : List Event) (p : Option Nat) : ScopeOk h ({ parent := p } : ScopeSt) where
  values k v hv := by simp [aget] at hv
  dvalues k v hv := by simp [aget] at hv
  groups k v hv := by simp [agetL, aget] at hv
  dgroups k v hv := by simp [aget] at hv

structure Prov (st : St) : Prop where
  scopes : ∀ s, ScopeOk st.hist (st.scope s)
  args : ArgsOk st.hist

theorem Prov.transfer {a b : St} (h : Prov a) (hh : b.hist = a.hist)
    (hs : ∀ j, (b.scope j).values = (a.scope j).values ∧ (b.scope j).decoratedValues = (a.scope j).decoratedValues ∧
      (b.scope j).groups = (a.scope j).groups ∧ (b.scope j).decoratedGroups = (a.scope j).decoratedGroups) : Prov b where
  scopes s := by rw [hh]; exact (h.scopes s).of_caches (hs s)
  args := by rw [hh]; exact h.args

theorem Prov.of_scopes {a b : St} (h : Prov a) (hh : b.hist = a.hist) (hs : b.scopes = a.scopes) : Prov b :=
  h.transfer hh (fun j => by simp [St.scope, hs])

theorem Prov.ext {a b : St} (h : Prov a) (l : List Event) (hh : b.hist = a.hist ++ l) (hs : b.scopes = a.scopes)
    (ha : ArgsOk (a.hist ++ l)) : Prov b where
  scopes s := by
    rw [hh]
    have : b.scope s = a.scope s := by simp [St.scope, hs]
    rw [this]; exact (h.scopes s).mono l
  args := by rw [hh]; exact ha

theorem Prov.emit {st : St} (h : Prov st) (e : Event)
    (he : ∀ w f x args, e = .enter w f x args → ValsOk st.hist args) : Prov (st.emit e) :=
  h.ext [e] rfl rfl (argsOk_snoc h.args he)

theorem Prov.init : Prov ({} : St) where
  scopes s := by
    cases s with
    | zero => exact scopeOk_empty _ none
    | succ n => exact scopeOk_empty _ none
  args := argsOk_nil

theorem Prov.modScope {st : St} (h : Prov st) (s : Nat) (f : ScopeSt → ScopeSt)
    (hf : ScopeOk st.hist (st.scope s) → ScopeOk st.hist (f (st.scope s))) : Prov (st.modScope s f) where
  scopes j := by
    show ScopeOk st.hist ((st.modScope s f).scope j)
    rw [scope_modScope]
    split
    · rename_i hc; obtain ⟨rfl, _⟩ := hc; exact hf (h.scopes s)
    · exact h.scopes j
  args := h.args

end Dig
