import DigModel.Proofs.Reach
import DigModel.Proofs.Just2
import DigModel.Proofs.ParseState
/-
  Well-formedness of what the parser produces: the key of a plain parameter has no group, the key of a
  value-group parameter and of a value-group result has a non-empty group name (repair of F11), so the
  two kinds of keys can never coincide.
-/
namespace Dig

def LfWF : Lf → Prop
  | .single k => k.group = ""
  | .group k _ => k.group ≠ ""

def ParamWF (p : Param) : Prop := ∀ l ∈ leaves p, LfWF l
def ParamsWF (ps : List Param) : Prop := ∀ l ∈ leavesL ps, LfWF l

theorem paramsWF_cons {p : Param} {ps : List Param} (h1 : ParamWF p) (h2 : ParamsWF ps) : ParamsWF (p :: ps) := by
  intro l hl
  simp only [leavesL, List.mem_append] at hl
  rcases hl with h | h
  · exact h1 l h
  · exact h2 l h

theorem paramRule_wf : ParamRule (fun _ p _ => ParamWF p) (fun _ ps _ => ParamsWF ps) where
  single _ _ _ _ l hl := by simp only [leaves, List.mem_singleton] at hl; subst hl; rfl
  grouped _ _ _ _ _ hg l hl := by simp only [leaves, List.mem_singleton] at hl; subst hl; exact hg
  object h l hl := h l (by simpa only [leaves] using hl)
  nil _ l hl := by simp only [leavesL, List.not_mem_nil] at hl
  cons := paramsWF_cons

theorem newParam_wf (env : TyEnv) (t : GoT) (s s' : List PGDesc) (p : Param) (h : newParam env t s = (.ok p, s')) :
    ParamWF p := (newParam_parsed paramRule_wf env t s).of_ok (congrArg Prod.fst h)

theorem newParamFields_wf (env : TyEnv) (ignore : Bool) : ∀ (fs : List (FieldMeta × GoT)) (s s' : List PGDesc) (ps : List Param),
    newParamFields env ignore fs s = (.ok ps, s') → ParamsWF ps :=
  fun fs s _ _ h => (newParamFields_parsed paramRule_wf env ignore fs s).of_ok (congrArg Prod.fst h)

theorem newParamField_wf (env : TyEnv) : ∀ (f : FieldMeta × GoT) (s s' : List PGDesc) (p : Param),
    newParamField env f s = (.ok p, s') → ParamWF p :=
  fun f s _ _ h => (newParamField_parsed paramRule_wf env f s).of_ok (congrArg Prod.fst h)

theorem parseParams_wf (env : TyEnv) (st : St) (sc : Nat) (fn : Fn) (ps : List Param) (w : St)
    (h : parseParams env st sc fn = (.ok ps, w)) : ParamsWF ps :=
  (newParamListAux_parsed paramRule_wf env _ _).of_ok ((parseParams_fst env st sc fn).symm.trans (congrArg Prod.fst h))

def ResWF (r : Result) : Prop := ∀ x ∈ groupLeaves r, x.1.group ≠ ""
def RessWF (rs : List Result) : Prop := ∀ x ∈ groupLeavesL rs, x.1.group ≠ ""

theorem ressWF_cons {r : Result} {rs : List Result} (h1 : ResWF r) (h2 : RessWF rs) : RessWF (r :: rs) := by
  intro x hx
  simp only [groupLeavesL, List.mem_append] at hx
  rcases hx with h | h
  · exact h1 x h
  · exact h2 x h

theorem resWF_grouped (slot decl ty : Nat) (group : String) (fl : Bool) (as : List Nat) (hg : group ≠ "") :
    ResWF (.grouped slot decl ty group fl as) := by
  intro x hx
  simp only [groupLeaves] at hx
  split at hx
  · simp only [List.mem_singleton] at hx; subst hx; exact hg
  · simp only [List.mem_map] at hx
    obtain ⟨t, _, rfl⟩ := hx
    exact hg

theorem resWF_single (slot decl ty : Nat) (name : String) (as : List Nat) : ResWF (.single slot decl ty name as) := by
  intro x hx; simp [groupLeaves] at hx

theorem resultRule_wf : ResultRule ResWF RessWF where
  single := resWF_single
  grouped := resWF_grouped
  object h x hx := h x (by simpa only [groupLeaves] using hx)
  nil x hx := by simp only [groupLeavesL, List.not_mem_nil] at hx
  cons := ressWF_cons

theorem newResult_wf (env : TyEnv) (o : ResultOpts) (slot : Nat) (t : GoT) (r : Result) (h : newResult env o slot t = .ok r) :
    ResWF r := (newResult_answer resultRule_wf env t o slot).of_ok h

theorem newResultFields_wf (env : TyEnv) : ∀ (o : ResultOpts) (slot : Nat) (fs : List (FieldMeta × GoT)) (rs : List Result),
    newResultFields env o slot fs = .ok rs → RessWF rs :=
  fun o slot fs _ h => (newResultFields_answer resultRule_wf env fs o slot).of_ok h

theorem newResultField_wf (env : TyEnv) : ∀ (o : ResultOpts) (slot : Nat) (f : FieldMeta × GoT) (r : Result),
    newResultField env o slot f = .ok r → ResWF r :=
  fun o slot f _ h => (newResultField_answer resultRule_wf env f o slot).of_ok h

def SlotsWF (slots : List RSlot) : Prop := ∀ x ∈ slotGroupLeaves slots, x.1.group ≠ ""

theorem newResultList_wf (env : TyEnv) (o : ResultOpts) (fn : Fn) (rs : List RSlot) (h : newResultList env o fn = .ok rs) :
    SlotsWF rs := by
  refine (newResultListAux_answer resultRule_wf env (PS := SlotsWF) ?_ ?_ ?_ o fn.outs 0).of_ok h
  · intro x hx; simp only [slotGroupLeaves, List.not_mem_nil] at hx
  · intro rs h x hx; exact h x (by simpa only [slotGroupLeaves] using hx)
  · intro r rs h1 h2 x hx
    simp only [slotGroupLeaves, List.mem_append] at hx
    exact hx.elim (h1 x) (h2 x)

end Dig
