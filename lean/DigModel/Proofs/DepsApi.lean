import DigModel.Proofs.Deps
import DigModel.Proofs.GraphMeaningApi
import DigModel.Proofs.CalledExit
import DigModel.Proofs.Shape
/-
  `Deps` through the API, and what a successful Invoke leaves behind.
-/
namespace Dig

theorem fr_apiScope {st : St} (ht : TreeInv st) (parent : Nat) (hp : parent < st.scopes.length) : Fr st (apiScope st parent) := by
  have hcs := cacheSame_apiScope st parent
  have ho := (apiScope_shape st parent).1
  refine ⟨(apiScope_ancestors ht parent hp).1, fun S k h => by rw [(hcs.2.2 S).1]; exact h,
    fun S k h => by rw [(hcs.2.2 S).2.1]; exact h, fun n hn => ?_, fun d hd => ?_⟩
  · obtain ⟨o, e⟩ := ho.ctor n
    rw [e] at hn ⊢; exact ⟨hn, rfl, rfl⟩
  · have : (apiScope st parent).deco d = st.deco d := by simp only [St.deco, ho.decos]
    rw [this] at hd ⊢; exact ⟨hd, rfl, rfl⟩

theorem fr_of_eqV {a b : St} (h : EqButVerified a b) : Fr a b :=
  fr_of_same h.scopesLen.symm
    (fun j => ⟨(h.scope j).1.symm, (h.scope j).2.2.2.2.1.symm, (h.scope j).2.2.2.2.2.1.symm⟩)
    h.ctors.symm h.decos.symm

theorem fr_modScope (st : St) (s : Nat) (f : ScopeSt → ScopeSt)
    (hf : ∀ x, (f x).parent = x.parent ∧ (f x).values = x.values ∧ (f x).decoratedValues = x.decoratedValues) :
    Fr st (st.modScope s f) :=
  fr_of_same (by simp [St.modScope]) (fun j => by rw [scope_modScope]; split <;> first | exact hf _ | exact ⟨rfl, rfl, rfl⟩)
    rfl rfl

theorem fr_registered {ctx : Ctx} {fn : Fn} {st : St} {i s : Nat} {o : ProvideOpts} {target : Nat} {params : List Param}
    {results : List RSlot} {keys : List Key} {w : St} (hr : Registered ctx fn st i s o target params results keys w) :
    Fr st w where
  anc c _ := ancestors_congr hr.work.len hr.work.parent c
  vals S k h := by rw [hr.work.values S]; exact h
  dvals S k h := by rw [hr.work.decoratedValues S]; exact h
  ctor n hn := by
    by_cases hlt : n < st.ctors.length
    · rw [ctor_of_take hr.work.ctorsPre n hlt] at hn ⊢; exact ⟨hn, rfl, rfl⟩
    · exfalso
      by_cases heq : n = st.ctors.length
      · obtain ⟨ord, e⟩ := hr.ctor
        rw [heq, e] at hn; cases hn
      · rw [ctor_default _ n (by rw [hr.len]; omega)] at hn; cases hn
  deco d hd := by
    have : w.deco d = st.deco d := by simp only [St.deco, hr.work.decos]
    rw [this] at hd ⊢; exact ⟨hd, rfl, rfl⟩

theorem fr_apiProvide (ctx : Ctx) (fn : Fn) (st : St) (i s : Nat) (o : ProvideOpts) : Fr st (apiProvide ctx fn st i s o).1 :=
  apiProvide_cases ctx fn st i s o (P := fun x => Fr st x.1) (fun _ _ he => fr_of_eqV he)
    (fun _ _ _ _ _ hr => fr_registered hr) fun target _ _ _ w hr =>
      (fr_registered hr).trans (fr_modScope w target _ fun _ => ⟨rfl, rfl, rfl⟩) (Nat.le_of_eq hr.work.len.symm)

theorem fr_ghOnly {a b : St} (h : GhOnly a b) : Fr a b :=
  fr_of_same h.scopesLen.symm
    (fun j => ⟨(h.scope j).1.symm, (h.scope j).2.2.2.2.1.symm, (h.scope j).2.2.2.2.2.1.symm⟩)
    h.ctors.symm h.decos.symm

theorem fr_newDeco (w : St) (node : DecoNode) (hn : node.state = .ready) : Fr w { w with decos := w.decos ++ [node] } where
  anc _ _ := rfl
  vals _ _ h := h
  dvals _ _ h := h
  ctor _ h := ⟨h, rfl, rfl⟩
  deco d hd := by
    have hst : ({ w with decos := w.decos ++ [node] } : St).deco d = (w.decos ++ [node]).getD d default := rfl
    by_cases hlt : d < w.decos.length
    · have : (w.decos ++ [node]).getD d default = w.deco d := by
        simp only [St.deco, List.getD_eq_getElem?_getD, List.getElem?_append_left hlt]
      rw [hst, this] at hd ⊢; exact ⟨hd, rfl, rfl⟩
    · exfalso
      rw [hst] at hd
      by_cases heq : d = w.decos.length
      · subst heq
        simp [List.getD_eq_getElem?_getD, hn] at hd
      · have : (w.decos ++ [node])[d]? = none := by
          apply List.getElem?_eq_none; simp; omega
        simp only [List.getD_eq_getElem?_getD, this] at hd
        cases hd

theorem fr_apiDecorate (ctx : Ctx) (fn : Fn) (st : St) (i s : Nat) (cb info : Bool) : Fr st (apiDecorate ctx fn st i s cb info).1 :=
  apiDecorate_cases ctx fn st i s cb info (P := fun x => Fr st x.1)
    (fun _ => fr_of_same rfl (fun _ => ⟨rfl, rfl, rfl⟩) rfl rfl) fun _ _ _ w _ hg _ _ _ =>
      have hl := Nat.le_of_eq hg.scopesLen
      (((fr_ghOnly hg).trans (fr_newDeco w _ rfl) hl).trans (fr_modScope _ s _ fun _ => ⟨rfl, rfl, rfl⟩) hl)

theorem Deps.invoke {st : St} (h : Deps st) (ctx : Ctx) (fn : Fn) (s : Nat) (info : Bool) :
    Deps (apiInvoke ctx fn st s info).1 ∧
    ((apiInvoke ctx fn st s info).2.v = .ok → ∃ params w, parseParams ctx.env st s fn = (.ok params, w) ∧
      ∀ k ∈ reqSinglesL params, HasKey (apiInvoke ctx fn st s info).1 s k) := by
  have hw : Deps (parseParams ctx.env st s fn).2 := h.frame (fr_ghOnly (ghOnly_parseParams ctx.env st s fn))
  have hrb := parse_rollback_eq ctx.env st s fn
  refine apiInvoke_cases
    (P := fun x => Deps x.1 ∧ (x.2.v = .ok → ∃ params w, parseParams ctx.env st s fn = (.ok params, w) ∧
      ∀ k ∈ reqSinglesL params, HasKey x.1 s k)) (fun _ _ => ⟨h, nofun⟩) ?_ ?_ ?_ ?_
  · intro _ e w hpp; rw [hpp] at hrb; rw [hrb]; exact ⟨h, nofun⟩
  · intro _ params w k ks hpp _; rw [hpp] at hw; exact ⟨hw, nofun⟩
  · intro _ params w v hpp _ hck
    rw [hpp] at hw
    exact ⟨hw, fun hv => absurd hv (invokeCheck_error_ne_ok hck)⟩
  · intro _ params w w3 hpp _ hck
    rw [hpp] at hw
    have hw3 : Deps w3 := by
      rcases invokeCheck_ok hck with e | ⟨_, e⟩
      · rw [e]; exact hw
      · rw [e]
        exact hw.frame (fr_modScope w s _ fun _ => ⟨rfl, rfl, rfl⟩)
    obtain ⟨hb, hpost⟩ := (deps_engine ctx (engineFuel w3 params)).2.2.2.2.2 params s w3 hw3
    unfold invokeRun
    have hws := wrapErr_state (buildList ctx (engineFuel w3 params) params s) DErr.argsFailed w3
    cases hbl : EM.wrapErr (buildList ctx (engineFuel w3 params) params s) DErr.argsFailed w3 with
    | mk r4 w4 =>
      rw [hbl] at hws; simp only at hws
      rw [← hws] at hb hpost
      cases r4 with
      | error f => exact ⟨hb, fun hv => by cases f <;> simp [failToVerdict] at hv⟩
      | ok args =>
        simp only
        have hok : ∃ v, (buildList ctx (engineFuel w3 params) params s w3).1 = .ok v := ⟨args, by rw [wrapErr_ok _ hbl]⟩
        have hf := callBody_fields ctx .invoked fn args w4
        have hfr : Fr w4 (callBody ctx .invoked fn args w4).2 :=
          fr_of_same (by rw [hf.1]) (fun j => by rw [scope_of_scopes_eq hf.1 j]; exact ⟨rfl, rfl, rfl⟩) hf.2.1 hf.2.2.1
        exact ⟨hb.frame hfr, fun _ => ⟨params, w, hpp, fun k hk => (hpost hok k hk).frame hfr⟩⟩

theorem Deps.init : Deps ({} : St) where
  ctor n hn := by
    have : (({} : St).ctor n) = default := by simp [St.ctor]
    rw [this] at hn; cases hn
  deco d hd := by
    have : (({} : St).deco d) = default := by simp [St.deco]
    rw [this] at hd; cases hd

/-- `Deps` needs the scope tree of the container it starts from (`GT`) -/
theorem Deps.stepInv (ctx : Ctx) (fns : List Fn) : StepInv ctx fns fun st => GT st ∧ Deps st :=
  (GT.stepInv ctx fns).and (fun _ h => h.frame (fr_of_same rfl (fun _ => ⟨rfl, rfl, rfl⟩) rfl rfl))
    (fun _ p hg h _ hp => h.frame (fr_apiScope hg.tree p hp))
    (fun st i s _ fn o _ h _ _ _ => h.frame (fr_apiProvide ctx fn st i s o))
    (fun st i s _ fn cb info _ h _ _ _ => h.frame (fr_apiDecorate ctx fn st i s cb info))
    fun _ s _ fn info _ h _ _ _ => (h.invoke ctx fn s info).1

theorem deps_program (p : Program) : Deps (runProgram p).1 :=
  (runOps_inv (Deps.stepInv p.ctx p.fns) p.ops 0 {} [] ⟨GT.init, Deps.init⟩).2

end Dig
