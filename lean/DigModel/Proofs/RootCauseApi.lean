import DigModel.Proofs.RootCause
import DigModel.Proofs.InvokeShape
import DigModel.Proofs.ApiLemmas
import DigModel.Proofs.Parse
/-
  Error transparency of Invoke: what the verdict of the resolution-and-call stage says about the events of that Invoke
  (`InvGood`, `invokeRun_root`), and its form on an operation's answer alone: `Reported`, which `runOps_all` carries to
  every answer of a program.
-/
namespace Dig

def InvGood (ctx : Ctx) (l : List Event) : Verdict → Prop
  | .ok => ∀ e ∈ l, e.isFail = true → ∃ f x k, e = Event.exit Who.invoked f x k
  | .err e => (Clean l ∧ DigRoot e) ∨ ∃ who f x,
      (e.rootCause = .user f x ∧ (ctx.beh f x).k = .err ∧ FailAt l who f x .err) ∨
      (e.rootCause = .panicErr f x ∧ ctx.cfg.recover = true ∧ (ctx.beh f x).k = .panic ∧ FailAt l who f x .panic)
  | .panicUser f x => ctx.cfg.recover = false ∧ (ctx.beh f x).k = .panic ∧ ∃ who, FailAt l who f x .panic
  | _ => True

def callVerdict (ctx : Ctx) (fn : Fn) : BodyRes → Verdict
  | .dry => .ok
  | .ok _ _ => .ok
  | .err x out => if out + 1 == fn.outs.length then .err (.user fn.id x) else .ok
  | .panic x => if ctx.cfg.recover then .err (.panicErr fn.id x) else .panicUser fn.id x

theorem invokeRun_cases {ctx : Ctx} {fn : Fn} {params : List Param} {s : Nat} {info : Bool} {w : St} {P : St × OpRes → Prop}
    (hfail : ∀ f w4, EM.wrapErr (buildList ctx (engineFuel w params) params s) .argsFailed w = (.error f, w4) →
      P (w4, { v := failToVerdict f, ev := w4.log }))
    (hcall : ∀ args w4 r w5 inf, EM.wrapErr (buildList ctx (engineFuel w params) params s) .argsFailed w = (.ok args, w4) →
      callBody ctx .invoked fn args w4 = (r, w5) → P (w5, { v := callVerdict ctx fn r, ev := w5.log, info := inf })) :
    P (invokeRun ctx fn params s info w) := by
  unfold invokeRun
  split
  · exact hfail _ _ ‹_›
  · rename_i args w4 hb
    cases hcb : callBody ctx .invoked fn args w4 with
    | mk r w5 => cases r <;> exact hcall _ _ _ _ _ hb hcb

theorem callVerdict_err {ctx : Ctx} {fn : Fn} {r : BodyRes} {e : DErr} (h : callVerdict ctx fn r = .err e) :
    ∃ x, e = .user fn.id x ∨ e = .panicErr fn.id x := by
  cases r with
  | dry => nomatch h
  | ok => nomatch h
  | err x out =>
    simp only [callVerdict] at h
    split at h
    · exact ⟨x, Or.inl (Verdict.err.inj h).symm⟩
    · nomatch h
  | panic x =>
    simp only [callVerdict] at h
    split at h
    · exact ⟨x, Or.inr (Verdict.err.inj h).symm⟩
    · nomatch h

theorem invokeBuild_sat (ctx : Ctx) (fuel : Nat) (params : List Param) (s : Nat) (w : St) :
    Sat (EM.wrapErr (buildList ctx fuel params s) .argsFailed w) (fun _ => CleanSince w.log) (FailSince ctx w.log) :=
  wrapErr_sat (((engine_root ctx fuel).2.2.2.2.2 params s w).sat (.refl w)) fun _ _ h => h.wrap .argsFailed

theorem invokeRun_since (ctx : Ctx) (fn : Fn) (params : List Param) (s : Nat) (info : Bool) (w : St) :
    ∃ l, (invokeRun ctx fn params s info w).2.ev = w.log ++ l ∧ InvGood ctx l (invokeRun ctx fn params s info w).2.v ∧
      ∀ e, (invokeRun ctx fn params s info w).2.v = .err e → DigRoot e → EngRoot e := by
  refine invokeRun_cases (P := fun x => ∃ l, x.2.ev = w.log ++ l ∧ InvGood ctx l x.2.v ∧
    ∀ e, x.2.v = .err e → DigRoot e → EngRoot e) ?_ ?_
  · intro f w4 hb
    obtain ⟨l, hl, hg⟩ := (invokeBuild_sat ctx _ params s w).error hb
    refine ⟨l, hl, ?_⟩
    cases f with
    | err e =>
      rcases hg with hc | ⟨_, who, f, x, _, hh⟩
      · exact ⟨Or.inl ⟨hc.1, hc.2.digRoot⟩, fun _ he _ => Verdict.err.inj he ▸ hc.2⟩
      · refine ⟨Or.inr ⟨who, f, x, hh⟩, fun _ he hd => ?_⟩
        cases Verdict.err.inj he
        rcases hh with ⟨hr, _⟩ | ⟨hr, _⟩
        · exact absurd hr (hd f x).1
        · exact absurd hr (hd f x).2
    | panic f x => exact ⟨⟨hg.1, hg.2.1, hg.2.2.imp fun _ h => h.2⟩, nofun⟩
    | bug => exact ⟨trivial, nofun⟩
    | fuel => exact ⟨trivial, nofun⟩
  · intro args w4 r w5 inf hb hcb
    obtain ⟨l, hl, hcl⟩ := (invokeBuild_sat ctx _ params s w).ok hb
    have hok : ∀ l', (∀ e ∈ l', e.isFail = true → ∃ f x k, e = Event.exit Who.invoked f x k) → InvGood ctx (l ++ l') .ok :=
      fun l' h e he hf => (List.mem_append.1 he).elim (fun h1 => absurd hf (by rw [hcl e h1]; nofun)) (h e · hf)
    by_cases hd : ctx.cfg.dry = true
    · rw [callBody_dry ctx hd] at hcb
      cases hcb
      exact ⟨l ++ [], by rw [List.append_nil]; exact hl, hok [] nofun, nofun⟩
    · rw [callBody_spec ctx (by simpa using hd)] at hcb
      cases hcb
      refine ⟨l ++ bodyEvents ctx .invoked fn args w4, by rw [← List.append_assoc, ← hl]; rfl, ?_⟩
      have hk := bodyRes_kind ctx fn w4
      have hev : ∀ k, ∀ e ∈ [Event.enter .invoked fn.id (w4.execCount fn.id) args, .exit .invoked fn.id (w4.execCount fn.id) k],
          e.isFail = true → ∃ f x k, e = Event.exit Who.invoked f x k := by
        intro k e he hf
        rcases List.mem_cons.1 he with rfl | he
        · cases hf
        · exact ⟨_, _, _, List.mem_singleton.1 he⟩
      have hat : ∀ k, k ≠ .ok → FailAt (l ++ [Event.enter .invoked fn.id (w4.execCount fn.id) args,
          .exit .invoked fn.id (w4.execCount fn.id) k]) .invoked fn.id (w4.execCount fn.id) k :=
        fun k hk => (failAt_body _ _ _ _ k hk (l := []) nofun).prepend hcl
      have hnd : ∀ g y, ¬ DigRoot (.user g y) ∧ ¬ DigRoot (.panicErr g y) :=
        fun g y => ⟨fun h => (h g y).1 rfl, fun h => (h g y).2 rfl⟩
      simp only [bodyEvents]
      generalize bodyRes ctx fn w4 = r at hk
      cases r with
      | dry => exact hk.elim
      | ok x len => exact ⟨hok _ (hev _), nofun⟩
      | err x out =>
        obtain ⟨rfl, hk, hb⟩ := hk
        simp only [callVerdict]
        split
        · exact ⟨Or.inr ⟨.invoked, fn.id, _, Or.inl ⟨rfl, hb, hk ▸ hat .err nofun⟩⟩,
            fun _ he hd => absurd (Verdict.err.inj he ▸ hd) (hnd _ _).1⟩
        · exact ⟨hok _ (hev _), nofun⟩
      | panic x =>
        obtain ⟨rfl, hk, hb⟩ := hk
        simp only [callVerdict]
        split
        · exact ⟨Or.inr ⟨.invoked, fn.id, _, Or.inr ⟨rfl, ‹_›, hb, hk ▸ hat .panic nofun⟩⟩,
            fun _ he hd => absurd (Verdict.err.inj he ▸ hd) (hnd _ _).2⟩
        · exact ⟨⟨Bool.eq_false_iff.2 ‹_›, hb, .invoked, hk ▸ hat .panic nofun⟩, nofun⟩

theorem invokeRun_root (ctx : Ctx) (fn : Fn) (params : List Param) (s : Nat) (info : Bool) (w : St) (hlog : w.log = []) :
    InvGood ctx (invokeRun ctx fn params s info w).2.ev (invokeRun ctx fn params s info w).2.v := by
  obtain ⟨l, hl, hg, _⟩ := invokeRun_since ctx fn params s info w
  rw [hl, hlog]
  exact hg

/-- the only errors the resolution-and-call stage of Invoke produces by itself are "missing type" and "cycle";
    everything else is a user function's own error or recovered panic -/
theorem invokeRun_engRoot (ctx : Ctx) (fn : Fn) (params : List Param) (s : Nat) (info : Bool) (w : St) (e : DErr)
    (h : (invokeRun ctx fn params s info w).2.v = .err e) :
    EngRoot e ∨ ∃ f x, (e.rootCause = .user f x ∧ (ctx.beh f x).k = .err) ∨ (e.rootCause = .panicErr f x ∧ (ctx.beh f x).k = .panic) := by
  obtain ⟨l, _, hg, hroot⟩ := invokeRun_since ctx fn params s info w
  rw [h] at hg
  rcases hg with hc | ⟨_, f, x, ⟨hr, hb, _⟩ | ⟨hr, _, hb, _⟩⟩
  · exact Or.inl (hroot e h hc.2)
  · exact Or.inr ⟨f, x, Or.inl ⟨hr, hb⟩⟩
  · exact Or.inr ⟨f, x, Or.inr ⟨hr, hb⟩⟩

/-- every failing execution of a constructor or decorator among the events of an operation is *the* failure the
    operation reports: its error (or recovered panic) is the root cause of the returned error, its unrecovered panic
    is the panic that propagates; and there is no second one -/
def Reported (ctx : Ctx) (r : OpRes) : Prop :=
  ∀ who g x k, who ≠ Who.invoked → Event.exit who g x k ∈ r.ev → k ≠ .ok →
    (k = .err → ∃ e, r.v = .err e ∧ e.rootCause = .user g x) ∧
    (k = .panic → (ctx.cfg.recover = true → ∃ e, r.v = .err e ∧ e.rootCause = .panicErr g x) ∧
                  (ctx.cfg.recover = false → r.v = .panicUser g x)) ∧
    (∀ who' g' x' k', Event.exit who' g' x' k' ∈ r.ev → k' ≠ .ok → who' = who ∧ g' = g ∧ x' = x ∧ k' = k)

theorem failAt_unique {l : List Event} {who : Who} {f x : Nat} {k : ExitKind} (h : FailAt l who f x k)
    {who' : Who} {g y : Nat} {k' : ExitKind} (hm : Event.exit who' g y k' ∈ l) (hk' : k' ≠ .ok) :
    who' = who ∧ g = f ∧ y = x ∧ k' = k := by
  obtain ⟨l1, cbs, e, h1, hc, _⟩ := h
  rw [e] at hm
  rcases List.mem_append.mp hm with hm | hm
  · have := h1 _ hm
    cases k' with
    | ok => exact absurd rfl hk'
    | err => cases this
    | panic => cases this
  · rcases List.mem_cons.mp hm with hm | hm
    · injection hm with a b c d
      exact ⟨a, b, c, d⟩
    · have := hc _ hm
      cases this

theorem reported_of_invGood {ctx : Ctx} {r : OpRes} (h : InvGood ctx r.ev r.v) (h1 : r.v ≠ .panicDig) (h2 : r.v ≠ .fuel)
    (h3 : r.v ≠ .badop) : Reported ctx r := by
  intro who g x k hw hm hk
  have hfail : (Event.exit who g x k).isFail = true := by
    cases k with
    | ok => exact absurd rfl hk
    | err => rfl
    | panic => rfl
  cases hv : r.v with
  | ok =>
    rw [hv] at h
    obtain ⟨f, y, k2, e⟩ := h _ hm hfail
    injection e with a _ _ _
    exact absurd a hw
  | badop => exact absurd hv h3
  | panicDig => exact absurd hv h1
  | fuel => exact absurd hv h2
  | err e =>
    rw [hv] at h
    rcases h with ⟨hc, _⟩ | ⟨who', f, y, hh⟩
    · have := hc _ hm; rw [hfail] at this; cases this
    · rcases hh with ⟨hr, _, hf⟩ | ⟨hr, hrec, _, hf⟩
      · obtain ⟨a, b, c, d⟩ := failAt_unique hf hm hk
        subst a; subst b; subst c; subst d
        refine ⟨fun _ => ⟨e, rfl, hr⟩, (fun hc => by cases hc), ?_⟩
        intro who' g' x' k' hm' hk'
        exact failAt_unique hf hm' hk'
      · obtain ⟨a, b, c, d⟩ := failAt_unique hf hm hk
        subst a; subst b; subst c; subst d
        refine ⟨(fun hc => by cases hc), fun _ => ⟨fun _ => ⟨e, rfl, hr⟩, (fun hc => by rw [hrec] at hc; cases hc)⟩, ?_⟩
        intro who' g' x' k' hm' hk'
        exact failAt_unique hf hm' hk'
  | panicUser f y =>
    rw [hv] at h
    obtain ⟨hrec, _, who', hf⟩ := h
    obtain ⟨a, b, c, d⟩ := failAt_unique hf hm hk
    subst a; subst b; subst c; subst d
    refine ⟨(fun hc => by cases hc), fun _ => ⟨(fun hc => by rw [hrec] at hc; cases hc), fun _ => rfl⟩, ?_⟩
    intro who' g' x' k' hm' hk'
    exact failAt_unique hf hm' hk'

theorem reported_nil (ctx : Ctx) (r : OpRes) (h : r.ev = []) : Reported ctx r := by
  intro who g x k _ hm; rw [h] at hm; cases hm

theorem invokeCheck_log (w w' : St) (s : Nat) (h : invokeCheck w s = .ok w') : w'.log = w.log := by
  rcases invokeCheck_ok h with e | ⟨_, e⟩ <;> rw [e] <;> rfl

theorem invokeCheck_error (w : St) (s : Nat) (v : Verdict) (h : invokeCheck w s = .error v) :
    (∃ p, v = .err (.invalid (.cycle p s)) ∧ ∃ q, checkAcyclic w s = .cycle q) ∨ v = .panicDig := by
  unfold invokeCheck at h
  split at h
  · cases h
  · split at h
    · cases h
    · rename_i q hq
      injection h with e; subst e; exact Or.inl ⟨_, rfl, q, hq⟩
    · injection h with e; subst e; exact Or.inr rfl

theorem invokeRun_ne_badop (ctx : Ctx) (fn : Fn) (params : List Param) (s : Nat) (info : Bool) (w : St) :
    (invokeRun ctx fn params s info w).2.v ≠ .badop := by
  refine invokeRun_cases (P := fun x => x.2.v ≠ .badop) (fun f _ _ => by cases f <;> nofun) fun _ _ r _ _ _ _ => ?_
  cases r with
  | dry => nofun
  | ok => nofun
  | err => simp only [callVerdict]; split <;> nofun
  | panic => simp only [callVerdict]; split <;> nofun

theorem runOps_all (ctx : Ctx) (fns : List Fn) (P : OpRes → Prop) (hP : ∀ st i op, P (Dig.step ctx fns st i op).2) :
    ∀ (ops : List Op) (i : Nat) (st : St) (acc : List OpRes), (∀ r ∈ acc, P r) →
      ∀ r ∈ (Dig.runOps ctx fns ops i st acc).2, P r :=
  fun ops i st acc hacc =>
    (runOps_inv_all (I := fun _ => True) (fun st i op _ => ⟨trivial, hP st i op⟩) ops i st acc trivial hacc).2

end Dig
