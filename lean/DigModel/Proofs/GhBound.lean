import DigModel.Proofs.Views
import DigModel.Proofs.NodeOrder
import DigModel.Proofs.DfsTotal
import DigModel.Proofs.InvokeShape
/-
  The orders recorded for a graph node never point outside the graph holder they were recorded for (`OB`), in every
  reachable container.  Hence `graph.IsAcyclic` never indexes out of range, and — by `Dfs.isAcyclic_total` — its
  depth-first search never exceeds its recursion budget: the two answers of `checkAcyclic` that the model turns into
  "dig panics" are unreachable.
-/
namespace Dig

/-- an order is usable in a holder of `n` nodes (order 0 is what an unrecorded order reads as) -/
def Bnd (n o : Nat) : Prop := o = 0 ∨ o < n

theorem Bnd.mono {n n' o : Nat} (h : Bnd n o) (hn : n ≤ n') : Bnd n' o := by
  rcases h with h | h
  · exact Or.inl h
  · exact Or.inr (Nat.lt_of_lt_of_le h hn)

structure OB (st : St) : Prop where
  ctor : ∀ s m, Bnd (st.scope s).gh.length (orderOf (st.ctor m).orders s)
  pg : ∀ s i, Bnd (st.scope s).gh.length (orderOf (st.pgs.getD i default).orders s)

theorem OB.node {st : St} (h : OB st) (s : Nat) : ∀ x, Bnd (st.scope s).gh.length (nodeOrder st x s)
  | .ctor m => h.ctor s m
  | .pg i => h.pg s i

theorem OB.of_node {st : St} (h : ∀ s x, Bnd (st.scope s).gh.length (nodeOrder st x s)) : OB st :=
  ⟨fun s m => h s (.ctor m), fun s i => h s (.pg i)⟩

theorem OB.init : OB ({} : St) where
  ctor s m := Or.inl (by simp [St.ctor]; rfl)
  pg s i := Or.inl (by simp; rfl)

/-- same holders (lengths), same orders -/
theorem OB.transfer {a b : St} (h : OB a) (hg : ∀ s, (a.scope s).gh.length ≤ (b.scope s).gh.length)
    (hc : ∀ m, (b.ctor m).orders = (a.ctor m).orders) (hp : ∀ i, (b.pgs.getD i default).orders = (a.pgs.getD i default).orders) :
    OB b where
  ctor s m := by rw [hc m]; exact (h.ctor s m).mono (hg s)
  pg s i := by rw [hp i]; exact (h.pg s i).mono (hg s)

theorem graphSame_of_eqButVerified {a b : St} (h : EqButVerified a b) : GraphSame a b :=
  ⟨h.ctors, h.2.2.1, h.scopesLen, fun j => ⟨(h.scope j).1, (h.scope j).providers, (h.scope j).2.2.2.2.2.2.2.2.2⟩⟩

theorem OB.graphSame {a b : St} (h : OB a) (hg : GraphSame a b) : OB b :=
  h.transfer (fun s => by rw [hg.gh s]; exact Nat.le_refl _) (fun m => by rw [hg.ctor m]) (fun i => by rw [hg.pgs])

theorem OB.eqButVerified {a b : St} (h : OB a) (he : EqButVerified a b) : OB b :=
  h.graphSame (graphSame_of_eqButVerified he)

theorem OB.regFrame {a b : St} (h : OB a) (hf : RegFrame a b) : OB b :=
  h.transfer (fun s => by rw [(hf.scopeReg s).gh]; exact Nat.le_refl _)
    (fun m => (hf.ctorStatic m).orders.symm) (fun i => by rw [hf.pgs])

theorem OB.ghStep {st : St} (h : OB st) (node : GNode) (sc : Nat) : OB (ghStep node st sc) := by
  refine .of_node fun s x => ?_
  have hge : (st.scope s).gh.length ≤ ((Dig.ghStep node st sc).scope s).gh.length := by
    rw [ghStep_scope]; split <;> simp
  rw [ghStep_nodeOrder]
  split
  · rename_i hc
    obtain ⟨_, _, rfl⟩ := hc
    rw [ghStep_scope]
    split
    · exact .inr (by simp)
    · rename_i hs
      exact .inl (by rw [scope_ge_len st s (by omega)]; rfl)
  · exact (h.node s x).mono hge

theorem OB.foldGhStep (node : GNode) : ∀ (l : List Nat) (st : St), OB st → OB (l.foldl (Dig.ghStep node) st) := by
  intro l
  induction l with
  | nil => intro st h; exact h
  | cons x xs ih => intro st h; exact ih _ (h.ghStep node x)

theorem OB.newGraphNode {st : St} (h : OB st) (s : Nat) (node : GNode) : OB (st.newGraphNode s node) := by
  rw [newGraphNode_eq]; exact OB.foldGhStep node _ st h

theorem getD_append_fresh {α : Type} (l l' : List α) (d : α) (i : Nat) :
    (l ++ l').getD i d = if i < l.length then l.getD i d else l'.getD (i - l.length) d := by
  simp only [List.getD_eq_getElem?_getD]
  by_cases hi : i < l.length
  · rw [if_pos hi, List.getElem?_append_left hi]
  · rw [if_neg hi, List.getElem?_append_right (by omega)]

theorem OB.addCtor {st : St} (h : OB st) (node : CtorNode) (hn : node.orders = []) :
    OB { st with ctors := st.ctors ++ [node] } where
  ctor s m := by
    show Bnd (st.scope s).gh.length (orderOf ((st.ctors ++ [node]).getD m default).orders s)
    rw [getD_append_fresh]
    split
    · exact h.ctor s m
    · left
      cases hm : m - st.ctors.length with
      | zero => simp [hn, orderOf]
      | succ k => simp; rfl
  pg s i := h.pg s i

theorem OB.addDeco {st : St} (h : OB st) (l : List DecoNode) : OB { st with decos := l } := ⟨h.ctor, h.pg⟩

theorem OB.addPgs {st : St} (h : OB st) (l : List PGNode) (hl : ∀ p ∈ l, p.orders = []) :
    OB { st with pgs := st.pgs ++ l } where
  ctor s m := h.ctor s m
  pg s i := by
    show Bnd (st.scope s).gh.length (orderOf ((st.pgs ++ l).getD i default).orders s)
    rw [getD_append_fresh]
    split
    · exact h.pg s i
    · left
      rw [List.getD_eq_getElem?_getD]
      cases hg : l[i - st.pgs.length]? with
      | none => simp; rfl
      | some p =>
        have : p ∈ l := List.mem_of_getElem? hg
        simp [hl p this, orderOf]

theorem OB.modScope {st : St} (h : OB st) (s : Nat) (f : ScopeSt → ScopeSt) (hf : ∀ x, (f x).gh = x.gh) : OB (st.modScope s f) :=
  h.transfer (fun j => by rw [scope_modScope]; split <;> simp [hf]) (fun _ => rfl) (fun _ => rfl)

theorem OB.addPGNodes {st : St} (h : OB st) (s oldLen : Nat) (descs : List PGDesc) : OB (addPGNodes st s oldLen descs) := by
  unfold Dig.addPGNodes
  simp only
  have h1 : OB { st with pgs := st.pgs ++ (descs.drop oldLen).map fun d => ({ desc := d } : PGNode) } :=
    h.addPgs _ (by intro p hp; simp only [List.mem_map] at hp; obtain ⟨d, _, rfl⟩ := hp; rfl)
  generalize ({ st with pgs := st.pgs ++ (descs.drop oldLen).map fun d => ({ desc := d } : PGNode) } : St) = w at h1
  generalize List.range (descs.length - oldLen) = l
  induction l generalizing w with
  | nil => exact h1
  | cons x xs ih => exact ih _ (h1.newGraphNode s _)

theorem OB.parseParams {st : St} (h : OB st) (env : TyEnv) (s : Nat) (fn : Fn) : OB (parseParams env st s fn).2 := by
  unfold Dig.parseParams
  simp only
  exact h.addPGNodes _ _ _

/-! ### the check -/

theorem pOrdersList_bnd {st : St} (h : OB st) (s : Nat) : ∀ ps : List Param,
    ∀ v ∈ paramOrders.paramOrdersList st s ps, Bnd (st.scope s).gh.length v := by
  apply paramOrders.paramOrdersList.induct (motive_2 := fun p => ∀ v ∈ paramOrders st s p, Bnd (st.scope s).gh.length v)
    (motive_1 := fun ps => ∀ v ∈ paramOrders.paramOrdersList st s ps, Bnd (st.scope s).gh.length v)
  · intro k opt v hv
    simp only [paramOrders, List.mem_map] at hv
    obtain ⟨n, _, rfl⟩ := hv
    exact h.ctor s n
  · intro ty g soft pg v hv
    simp only [paramOrders, List.mem_singleton] at hv
    subst hv
    exact h.pg s pg
  · intro ty fs ih v hv
    simp only [paramOrders] at hv
    exact ih v hv
  · intro v hv
    simp [paramOrders.paramOrdersList] at hv
  · intro p ps ihp ihps v hv
    simp only [paramOrders.paramOrdersList, List.mem_append] at hv
    rcases hv with hv | hv
    · exact ihp v hv
    · exact ihps v hv

theorem edgesFrom_bnd {st : St} (h : OB st) (s u : Nat) : ∀ v ∈ edgesFrom st s u, Bnd (st.scope s).gh.length v := by
  intro v hv
  unfold Dig.edgesFrom at hv
  split at hv
  · exact pOrdersList_bnd h s _ v hv
  · simp only [List.mem_map] at hv
    obtain ⟨n, _, rfl⟩ := hv
    exact h.ctor s n
  · simp at hv

/-- `graph.IsAcyclic` never indexes outside the holder -/
theorem edgesFrom_lt {st : St} (h : OB st) (s u : Nat) (hu : u < (st.scope s).gh.length) :
    ∀ v ∈ edgesFrom st s u, v < (st.scope s).gh.length := by
  intro v hv
  rcases edgesFrom_bnd h s u v hv with h0 | h1
  · omega
  · exact h1

/-- so its answer is that of the depth-first search -/
theorem checkAcyclic_eq {st : St} (h : OB st) (s : Nat) :
    checkAcyclic st s = match Dfs.isAcyclic (edgesFrom st s) (st.scope s).gh.length with
      | .ok _ => .acyclic
      | .cycle p => .cycle p
      | .oof => .fuel := by
  have hany : (List.range (st.scope s).gh.length).any (fun u => (edgesFrom st s u).any (fun v => decide ((st.scope s).gh.length ≤ v))) = false := by
    rw [List.any_eq_false]
    intro u hu
    rw [Bool.not_eq_true, List.any_eq_false]
    intro v hv
    have := edgesFrom_lt h s u (List.mem_range.mp hu) v hv
    simp; omega
  simp only [Dig.checkAcyclic, hany, Bool.false_eq_true, if_false]
  cases Dfs.isAcyclic (edgesFrom st s) (st.scope s).gh.length <;> rfl

/-- **the acyclicity check always answers "acyclic" or names a cycle** -/
theorem checkAcyclic_decides {st : St} (h : OB st) (s : Nat) :
    checkAcyclic st s = .acyclic ∨ ∃ path, checkAcyclic st s = .cycle path := by
  rw [checkAcyclic_eq h]
  have ht := Dfs.isAcyclic_total (edgesFrom st s) (st.scope s).gh.length (edgesFrom_lt h s)
  split <;> simp_all

theorem checkAcyclic_total {st : St} (h : OB st) (s : Nat) :
    checkAcyclic st s ≠ .outOfRange ∧ checkAcyclic st s ≠ .fuel := by
  rcases checkAcyclic_decides h s with e | ⟨p, e⟩ <;> simp [e]

/-- a closed walk among the positions of a holder makes the check name a cycle -/
theorem checkAcyclic_complete {st : St} (h : OB st) (s a : Nat) (l : List Nat) (hl : l ≠ [])
    (hn : ∀ x ∈ a :: l, x < (st.scope s).gh.length) (hw : Dfs.IsWalk (edgesFrom st s) (a :: l))
    (hclosed : (a :: l).getLast (by simp) = a) : ∃ p, checkAcyclic st s = .cycle p := by
  obtain ⟨p, hp, _⟩ := Dfs.isAcyclic_complete _ _ (edgesFrom_lt h s) a l hl hn hw hclosed
  exact ⟨p, by rw [checkAcyclic_eq h, hp]⟩

end Dig
