import DigModel.Proofs.Prov
import DigModel.Proofs.Lookup
import DigModel.Proofs.Extract
/-
  The resolver preserves `Prov` and only ever returns values that stem from successful executions.
-/
namespace Dig

/-! ### extraction writes only values of the execution that just ended -/

theorem scopeOk_submitAll {h : List Event} {sc : ScopeSt} (hs : ScopeOk h sc) (k : Key) (vs : List Val)
    (hv : ValsOk h vs) : ScopeOk h { sc with groups := submitAll sc.groups k vs } where
  values := hs.values
  dvalues := hs.dvalues
  dgroups := hs.dgroups
  groups k' v hm := by
    unfold submitAll at hm
    rw [agetL_aset] at hm
    split at hm
    · rcases List.mem_append.mp hm with h2 | h2
      · exact hs.groups k v h2
      · exact hv v h2
    · exact hs.groups k' v hm

theorem scopeOk_apply (env : TyEnv) (h : List Event) (r : Ret) (hr : r.dry = false → OkExec h (r.f, r.x))
    (sc : ScopeSt) (w : CW) (hs : ScopeOk h sc) : ScopeOk h (CW.apply env r sc w) := by
  have hv := fun slot decl => valOk_retVal env h r slot decl hr
  have set : ∀ (m : List (Key × Val)) (k' : Key) (slot decl : Nat), (∀ k v, aget m k = some v → ValOk h v) →
      ∀ k v, aget (aset m k' (r.val env slot decl)) k = some v → ValOk h v := by
    intro m k' slot decl hm k v hw
    rw [aget_aset] at hw
    split at hw
    · cases hw; exact hv slot decl
    · exact hm k v hw
  cases w with
  | val k slot decl => exact { hs with values := set _ k slot decl hs.values }
  | grp k slot decl fl =>
    refine scopeOk_submitAll hs k _ ?_
    cases fl
    · intro v hm; cases List.mem_singleton.mp hm; exact hv slot decl
    · exact valsOk_elemsOf (hv slot decl)
  | dval k slot decl => exact { hs with dvalues := set _ k slot decl hs.dvalues }
  | dgrp k slot decl => exact { hs with dgroups := set _ k slot decl hs.dgroups }

theorem scopeOk_extractSlots (env : TyEnv) (h : List Event) (deco : Bool) (r : Ret)
    (hr : r.dry = false → OkExec h (r.f, r.x)) (slots : List RSlot) (sc : ScopeSt) (hs : ScopeOk h sc) :
    ScopeOk h (extractSlots env deco r sc slots) :=
  extractSlots_inv env deco r slots (ScopeOk h) sc (fun sc w _ => scopeOk_apply env h r hr sc w) hs

/-! ### post-conditions carried through the resolver -/

def HistExt (a b : St) : Prop := ∃ l, b.hist = a.hist ++ l

theorem histExt_iff {a b : St} : HistExt a b ↔ Grows (fun _ => True) a.hist b.hist :=
  ⟨fun ⟨l, h⟩ => ⟨l, h, fun _ _ => trivial⟩, fun ⟨l, h, _⟩ => ⟨l, h⟩⟩

theorem HistExt.refl (a : St) : HistExt a a := histExt_iff.2 (Grows.refl _ _)
theorem HistExt.trans {a b c : St} (h1 : HistExt a b) (h2 : HistExt b c) : HistExt a c :=
  histExt_iff.2 ((histExt_iff.1 h1).trans (histExt_iff.1 h2))
theorem HistExt.of_eq {a b : St} (h : b.hist = a.hist) : HistExt a b := ⟨[], by rw [h, List.append_nil]⟩

theorem ctorTail_histExt (ctx : Ctx) (n : Nat) (node : CtorNode) (args : List Val) (st : St) :
    HistExt st (ctorTail ctx n node args st).2 := by
  obtain ⟨lb, lc, hh, _⟩ := ctorTail_log ctx n node args st
  exact ⟨lb ++ lc, hh⟩

theorem decoTail_histExt (ctx : Ctx) (d : Nat) (node : DecoNode) (args : List Val) (st : St) :
    HistExt st (decoTail ctx d node args st).2 := by
  obtain ⟨lb, lc, hh, _⟩ := decoTail_log ctx d node args st
  exact ⟨lb ++ lc, hh⟩

theorem histExt_leaf (ctx : Ctx) : LeafRel ctx HistExt where
  refl := HistExt.refl
  trans := HistExt.trans
  setOnStack _ _ := HistExt.of_eq rfl
  clearOnStack _ _ := HistExt.of_eq rfl
  ctorTail st n node args := ctorTail_histExt ctx n node args st
  decoOnStack _ _ := HistExt.of_eq rfl
  decoFinally _ _ := HistExt.of_eq rfl
  decoTail st d node args := decoTail_histExt ctx d node args st

/-- `Q` is a property of a result that stays true when the history grows -/
def Mono {α : Type} (Q : List Event → α → Prop) : Prop := ∀ h l a, Q h a → Q (h ++ l) a

theorem mono_valOk : Mono ValOk := fun _ l _ hv => hv.mono l
theorem mono_valsOk : Mono ValsOk := fun _ l _ hv => hv.mono l
theorem mono_true {α : Type} : Mono (fun (_ : List Event) (_ : α) => True) := fun _ _ _ _ => trivial
def OptOk (h : List Event) (o : Option Val) : Prop := ∀ v, o = some v → ValOk h v
theorem mono_optOk : Mono OptOk := fun _ l _ hv v hs => (hv v hs).mono l

/-- what running `m` from `st` guarantees -/
def PostR {α : Type} (Q : List Event → α → Prop) (st : St) (r : Except Fail α × St) : Prop :=
  Prov r.2 ∧ HistExt st r.2 ∧ ∀ a, r.1 = .ok a → Q r.2.hist a

abbrev Post {α : Type} (Q : List Event → α → Prop) (m : EM α) (st : St) : Prop := PostR Q st (m st)

theorem PostR.of_sat {α : Type} {Q : List Event → α → Prop} {st : St} {r : Except Fail α × St}
    (h : Sat r (fun a s => Prov s ∧ Q s.hist a) (fun _ => Prov)) (hh : HistExt st r.2) : PostR Q st r := by
  rcases r with ⟨_ | a, s⟩
  · exact ⟨h, hh, nofun⟩
  · exact ⟨h.1, hh, fun _ e => Except.ok.inj e ▸ h.2⟩

/-- a loop whose steps return fine values and only append to the history returns fine values, and values `ws` that
    were fine before it still are -/
theorem mapM_valsOk {α : Type} {f : α → EM Val} {xs : List α} {st : St} (ws : List Val) (h : Prov st)
    (hw : ValsOk st.hist ws)
    (hf : ∀ x ∈ xs, ∀ s, Prov s → Sat (f x s) (fun v s' => Prov s' ∧ ValOk s'.hist v) (fun _ => Prov))
    (hh : ∀ x ∈ xs, ∀ s, HistExt s (f x s).2) :
    Sat (mapM' xs f st) (fun vs s => Prov s ∧ ValsOk s.hist (ws ++ vs)) (fun _ => Prov) := by
  refine mapM_sat xs (I := fun _ vs s => Prov s ∧ ValsOk s.hist (ws ++ vs)) ⟨h, by rwa [List.append_nil]⟩ ?_
  intro pre x post e bs s hI
  have hx := mem_of_eq_append e
  refine sat_iff.2 ⟨fun b hb => ?_, fun e he => (sat_iff.1 (hf x hx s hI.1)).2 e he⟩
  obtain ⟨hp, hv⟩ := (sat_iff.1 (hf x hx s hI.1)).1 b hb
  obtain ⟨l, hl⟩ := hh x hx s
  refine ⟨hp, fun v hm => ?_⟩
  rw [← List.append_assoc] at hm
  rcases List.mem_append.mp hm with h1 | h1
  · rw [hl]; exact (hI.2 v h1).mono l
  · rw [List.mem_singleton.mp h1]; exact hv

/-! ### the leaf steps -/

theorem bodyRes_ok_x (ctx : Ctx) (fn : Fn) (st : St) (x len : Nat) (h : bodyRes ctx fn st = .ok x len) :
    x = st.execCount fn.id ∧ exitKind ctx fn (ctx.beh fn.id (st.execCount fn.id)) = .ok := by
  refine ⟨?_, (bodyRes_ok_iff ctx fn st).mp ⟨x, len, h⟩⟩
  unfold bodyRes at h
  cases hk : (ctx.beh fn.id (st.execCount fn.id)).k
  · simp [hk] at h; exact h.1.symm
  · by_cases he : (errOuts ctx.env fn).isEmpty <;> simp [hk, he] at h
    exact h.1.symm
  · simp [hk] at h

/-- running a user function: the two events keep the invariant, and a normal return means a successful exit is
    now part of the history -/
theorem prov_callBody (ctx : Ctx) (who : Who) (fn : Fn) (args : List Val) (st : St) (h : Prov st)
    (ha : ValsOk st.hist args) :
    Prov (callBody ctx who fn args st).2 ∧
    (who ≠ .invoked → ∀ x len, (callBody ctx who fn args st).1 = .ok x len →
      OkExec (callBody ctx who fn args st).2.hist (fn.id, x)) := by
  by_cases hd : ctx.cfg.dry = true
  · rw [callBody_dry ctx hd]
    exact ⟨h, fun _ x len hx => by cases hx⟩
  · have hnd : ctx.cfg.dry = false := by simpa using hd
    rw [callBody_spec ctx hnd]
    refine ⟨?_, ?_⟩
    · refine h.ext (bodyEvents ctx who fn args st) rfl (afterBody_fields ctx who fn args st).1 ?_
      unfold bodyEvents
      simp only
      have e : st.hist ++ [Event.enter who fn.id (st.execCount fn.id) args,
          Event.exit who fn.id (st.execCount fn.id) (exitKind ctx fn (ctx.beh fn.id (st.execCount fn.id)))] =
          (st.hist ++ [Event.enter who fn.id (st.execCount fn.id) args]) ++
          [Event.exit who fn.id (st.execCount fn.id) (exitKind ctx fn (ctx.beh fn.id (st.execCount fn.id)))] := by simp
      rw [e]
      refine argsOk_snoc (argsOk_snoc h.args ?_) (fun w f x a he => by cases he)
      intro w f x a he
      cases he
      exact ha
    · intro hw x len hx
      simp only at hx
      obtain ⟨rfl, hk⟩ := bodyRes_ok_x ctx fn st x len hx
      refine ⟨who, hw, ?_⟩
      show Event.exit who fn.id (st.execCount fn.id) .ok ∈ st.hist ++ bodyEvents ctx who fn args st
      unfold bodyEvents
      simp [hk]

theorem prov_runCallback (cb : Option Nat) (who : Who) (fn start : Nat) (err : Option DErr) (st : St) (h : Prov st) :
    Prov (runCallback cb who fn start err st) := by
  unfold runCallback
  split
  · exact h.emit _ (fun w f x a he => by cases he)
  · exact h

theorem prov_commit (env : TyEnv) (deco : Bool) (ret : Ret) (s : Nat) (slots : List RSlot) (st : St) (h : Prov st)
    (hr : ret.dry = false → OkExec st.hist (ret.f, ret.x)) :
    Prov (st.modScope s fun sc => extractSlots env deco ret sc slots) :=
  h.modScope s _ (scopeOk_extractSlots env st.hist deco ret hr slots _)

/-- the values written back by a real run are those of the execution that just ended well -/
theorem retOf_okExec {h : List Event} {f : Nat} {r : BodyRes} {ret : Ret}
    (hr : ∀ x len, r = .ok x len → OkExec h (f, x)) (e : retOf f r = some ret) (hd : ret.dry = false) :
    OkExec h (ret.f, ret.x) := by
  cases r with
  | ok x len => cases e; exact hr x len rfl
  | dry => cases e; cases hd
  | err => cases e
  | panic => cases e

theorem prov_ctorCommit (ctx : Ctx) (n : Nat) (node : CtorNode) (r : BodyRes) (st : St) (h : Prov st)
    (hr : ∀ x len, r = .ok x len → OkExec st.hist (node.fn.id, x)) : Prov (ctorCommit ctx n node r st) := by
  rw [ctorCommit_eq]
  split
  · exact (prov_commit ctx.env false _ node.s node.results st h (retOf_okExec hr ‹_›)).of_scopes rfl rfl
  · exact h

theorem prov_decoCommit (ctx : Ctx) (d : Nat) (node : DecoNode) (r : BodyRes) (st : St) (h : Prov st)
    (hr : ∀ x len, r = .ok x len → OkExec st.hist (node.fn.id, x)) : Prov (decoCommit ctx d node r st) := by
  rw [decoCommit_eq]
  split
  · exact (prov_commit ctx.env true _ node.s node.results st h (retOf_okExec hr ‹_›)).of_scopes rfl rfl
  · exact h

theorem prov_ctorTail (ctx : Ctx) (n : Nat) (node : CtorNode) (args : List Val) (st : St) (h : Prov st)
    (ha : ValsOk st.hist args) : Prov (ctorTail ctx n node args st).2 := by
  obtain ⟨p1, q1⟩ := prov_callBody ctx (.ctor n) node.fn args st h ha
  exact prov_runCallback _ _ _ _ _ _ (prov_ctorCommit ctx n node _ _ p1 (q1 nofun))

theorem prov_decoTail (ctx : Ctx) (d : Nat) (node : DecoNode) (args : List Val) (st : St) (h : Prov st)
    (ha : ValsOk st.hist args) : Prov (decoTail ctx d node args st).2 := by
  obtain ⟨p1, q1⟩ := prov_callBody ctx (.deco d) node.fn args st h ha
  exact prov_runCallback _ _ _ _ _ _ (prov_decoCommit ctx d node _ _ p1 (q1 nofun))

/-! ### the resolver -/

theorem interleave_mem (fs : List Param) (hard soft : List Val) (v : Val) (hv : v ∈ interleave fs hard soft) :
    v ∈ hard ∨ v ∈ soft := by
  induction fs, hard, soft using interleave.induct with
  | case1 => simp only [interleave] at hv; cases hv
  | case2 _ _ _ ps hard w soft ih =>
    simp only [interleave, List.mem_cons] at hv
    exact hv.elim (fun e => Or.inr (List.mem_cons.2 (Or.inl e))) fun h => (ih h).imp_right (List.mem_cons_of_mem _)
  | case3 _ _ _ ps hard ih => simp only [interleave] at hv; exact ih hv
  | case4 p ps w hard soft h1 h2 ih =>
    rw [interleave] at hv
    · simp only [List.mem_cons] at hv
      exact hv.elim (fun e => Or.inl (List.mem_cons.2 (Or.inl e))) fun h => (ih h).imp_left (List.mem_cons_of_mem _)
    · exact h1
    · exact h2
  | case5 p ps soft h1 h2 ih =>
    rw [interleave] at hv
    · exact ih hv
    · exact h1
    · exact h2

theorem findDecoratedValue_ok (st : St) (h : Prov st) (k : Key) (anc : List Nat) (v : Val)
    (hv : findDecoratedValue st k anc = some v) : ValOk st.hist v := by
  obtain ⟨_, s, _, _, hs, _⟩ := findDecoratedValue_some st k anc v hv
  exact (h.scopes s).dvalues k v hs

theorem findDecoratedGroup_ok (st : St) (h : Prov st) (k : Key) : ∀ (anc : List Nat) (v : Val),
    findDecoratedGroup st k anc = some v → ValOk st.hist v := by
  intro anc
  induction anc with
  | nil => intro v hv; simp [findDecoratedGroup] at hv
  | cons s rest ih =>
    intro v hv
    simp only [findDecoratedGroup] at hv
    split at hv
    · rename_i w hw; cases hv; exact (h.scopes s).dgroups k _ hw
    · exact ih v hv

theorem findProviders_ok (st : St) (h : Prov st) (k : Key) (anc : List Nat) (v : Val)
    (hv : findProviders st k anc = .value v) : ValOk st.hist v := by
  obtain ⟨_, s, _, _, hs, _⟩ := findProviders_value st k anc v hv
  exact (h.scopes s).values k v hs

/-- the resolver keeps `Prov`; the values it returns stem from executions that have ended successfully by then -/
theorem engine_prov_sat (ctx : Ctx) :
    ∀ fuel,
      (∀ n c st, Prov st → Prov (callCtor ctx fuel n c st).2) ∧
      (∀ d s st, Prov st → Prov (callDeco ctx fuel d s st).2) ∧
      (∀ k opt c st, Prov st →
        Sat (buildSingle ctx fuel k opt c st) (fun v s => Prov s ∧ ValOk s.hist v) (fun _ => Prov)) ∧
      (∀ k soft c st, Prov st →
        Sat (buildGroup ctx fuel k soft c st) (fun v s => Prov s ∧ ValOk s.hist v) (fun _ => Prov)) ∧
      (∀ p c st, Prov st → Sat (buildParam ctx fuel p c st) (fun v s => Prov s ∧ ValOk s.hist v) (fun _ => Prov)) ∧
      (∀ ps c st, Prov st → Sat (buildList ctx fuel ps c st) (fun vs s => Prov s ∧ ValsOk s.hist vs) (fun _ => Prov)) := by
  intro fuel
  induction fuel with
  | zero =>
    refine ⟨?_, ?_, ?_, ?_, ?_, ?_⟩ <;> intros
    · rw [callCtor_zero]; assumption
    · rw [callDeco_zero]; assumption
    · rw [buildSingle_zero]; assumption
    · rw [buildGroup_zero]; assumption
    · rw [buildParam_zero]; assumption
    · rw [buildList_zero]; assumption
  | succ fuel ih =>
    obtain ⟨ihC, ihD, ihS, ihG, ihP, ihL⟩ := ih
    -- values built earlier stay fine while later ones are built, because the history only grows
    have hext := (engine_pres ctx (histExt_leaf ctx) fuel).2.2.2.2.1
    refine ⟨?_, ?_, ?_, ?_, ?_, ?_⟩
    · intro n c st h
      rw [callCtor_succ]
      split
      · exact h
      · split
        · exact h
        · have h1 : Prov (st.modCtor n fun x => { x with onStack := true }) := h.of_scopes rfl rfl
          refine sat_state.1 (finally_sat (Q' := fun _ => Prov) (E' := fun _ => Prov) ?_
            (fun _ _ hs => hs.of_scopes rfl rfl) (fun _ _ hs => hs.of_scopes rfl rfl))
          refine bind_sat (R := fun _ => Prov)
            ((shallowCheck_sat _ _ _).mono (fun _ _ e => e ▸ h1) (fun _ _ e => e.1 ▸ h1)) fun _ s2 hs2 => ?_
          refine bind_sat (wrapErr_sat (ihL _ _ s2 hs2) fun _ _ h => h) fun args s3 hs3 => ?_
          exact sat_state.2 (prov_ctorTail ctx n _ args s3 hs3.1 hs3.2)
    · intro d s st h
      rw [callDeco_succ]
      split
      · exact h
      · have h1 : Prov (st.modDeco d fun x => { x with state := .onStack }) := h.of_scopes rfl rfl
        refine sat_state.1 (finally_sat (Q' := fun _ => Prov) (E' := fun _ => Prov) ?_
          (fun _ _ hs => hs.of_scopes rfl rfl) (fun _ _ hs => hs.of_scopes rfl rfl))
        refine bind_sat (R := fun _ => Prov)
          ((shallowCheck_sat _ _ _).mono (fun _ _ e => e ▸ h1) (fun _ _ e => e.1 ▸ h1)) fun _ s2 hs2 => ?_
        refine bind_sat (wrapErr_sat (ihL _ _ s2 hs2) fun _ _ h => h) fun args s3 hs3 => ?_
        exact sat_state.2 (prov_decoTail ctx d _ args s3 hs3.1 hs3.2)
    · intro k opt c st h
      rw [buildSingle_succ]
      split
      · refine bind_sat (wrapErr_sat (sat_state.2 (ihD _ _ st h)) fun _ _ h => h) fun _ s' hs' => ?_
        split
        · rename_i v hv
          exact And.intro hs' ((hs'.scopes _).dvalues k _ hv)
        · exact hs'
      · split
        · rename_i v hv
          exact And.intro h (findDecoratedValue_ok st h k _ _ hv)
        · split
          · rename_i v hv
            exact And.intro h (findProviders_ok st h k _ _ hv)
          · split
            · exact And.intro h (valOk_zeroVal _ _ _)
            · exact h
          · refine bind_sat (firstM_sat _ (I := fun _ => Prov) (Q := fun o s => Prov s ∧ OptOk s.hist o) h ?_
              fun _ h => ⟨h, nofun⟩) fun early s' hq => ?_
            · intro _ n _ _ s1 hs1
              exact providerStep_sat (sat_state.2 (ihC n _ s1 hs1)) (fun _ h => h)
                (fun _ s h _ => ⟨h, fun v e => Option.some.inj e ▸ valOk_zeroVal _ _ _⟩) (fun _ _ h _ => h)
                (fun _ _ _ h => h)
            · split
              · rename_i z
                exact And.intro hq.1 (hq.2 z rfl)
              · split
                · rename_i v hv
                  exact And.intro hq.1 ((hq.1.scopes _).values k _ hv)
                · exact hq.1
    · intro k soft c st h
      rw [buildGroup_succ]
      refine bind_sat (forEachM_inv (I := Prov) h fun s _ s1 h1 => ?_) fun _ s2 h2 => ?_
      · simp only [groupDecoStep]
        split
        · split
          · exact h1
          · exact wrapErr_sat (sat_state.2 (ihD _ _ s1 h1)) fun _ _ h => h
        · exact h1
      · split
        · rename_i v hv
          exact And.intro h2 (findDecoratedGroup_ok s2 h2 k _ _ hv)
        · refine bind_sat (R := fun _ => Prov) ?_ fun _ s5 h5 => And.intro h5 (valOk_sl.2 fun v hv => ?_)
          · split
            · exact h2
            · exact forEachM_inv h2 fun s _ s3 h3 => forEachM_inv h3 fun n _ s4 h4 =>
                wrapErr_sat (sat_state.2 (ihC _ _ s4 h4)) fun _ _ h => h
          · obtain ⟨s, _, hm⟩ := List.mem_flatMap.mp hv
            exact (h5.scopes s).groups k v hm
    · intro p c st h
      rw [buildParam_succ]
      cases p with
      | single k opt => exact ihS k opt c st h
      | grouped ty k soft pg => exact ihG k soft c st h
      | object ty fs =>
        refine bind_sat (mapM_valsOk [] h nofun (fun f _ => ihP f c) fun f _ => hext f c) fun hard s1 h1 => ?_
        refine bind_sat (mapM_valsOk hard h1.1 h1.2 (fun f _ => ihP f c) fun f _ => hext f c) fun soft s2 h2 => ?_
        refine And.intro h2.1 (valOk_obj.2 fun v hv => h2.2 v (List.mem_append.2 ?_))
        exact interleave_mem fs hard soft v hv
    · intro ps c st h
      rw [buildList_succ]
      exact mapM_valsOk [] h nofun (fun p _ => ihP p c) fun p _ => hext p c

theorem engine_prov (ctx : Ctx) :
    ∀ fuel,
      (∀ n c st, Prov st → Post (fun _ _ => True) (callCtor ctx fuel n c) st) ∧
      (∀ d s st, Prov st → Post (fun _ _ => True) (callDeco ctx fuel d s) st) ∧
      (∀ k opt c st, Prov st → Post ValOk (buildSingle ctx fuel k opt c) st) ∧
      (∀ k soft c st, Prov st → Post ValOk (buildGroup ctx fuel k soft c) st) ∧
      (∀ p c st, Prov st → Post ValOk (buildParam ctx fuel p c) st) ∧
      (∀ ps c st, Prov st → Post ValsOk (buildList ctx fuel ps c) st) := by
  intro fuel
  obtain ⟨hC, hD, hS, hG, hP, hL⟩ := engine_prov_sat ctx fuel
  obtain ⟨eC, eD, eS, eG, eP, eL⟩ := engine_pres ctx (histExt_leaf ctx) fuel
  exact ⟨fun n c st h => ⟨hC n c st h, eC n c st, fun _ _ => trivial⟩,
    fun d s st h => ⟨hD d s st h, eD d s st, fun _ _ => trivial⟩,
    fun k opt c st h => .of_sat (hS k opt c st h) (eS k opt c st),
    fun k soft c st h => .of_sat (hG k soft c st h) (eG k soft c st),
    fun p c st h => .of_sat (hP p c st h) (eP p c st), fun ps c st h => .of_sat (hL ps c st h) (eL ps c st)⟩

end Dig
