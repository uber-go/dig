import DigModel.Proofs.Frame
import DigModel.Proofs.Lookup
/-
  The flag discipline of the resolver (`called`, `onStack`, decorator state) and
  its consequence for executions: across any resolver call, whatever its outcome,

  * a node that is being built (`onStack`) is left completely untouched and is not executed;
  * a node that was built already is not executed;
  * every node has at most one *successful* execution, and then it is marked built;
  * `onStack` marks are balanced (every call leaves them as it found them), `called` only grows.
-/
namespace Dig

def isOkExit (w : Who) : Event → Bool
  | .exit w' _ _ .ok => decide (w' = w)
  | _ => false

def okExits (w : Who) (l : List Event) : Nat := l.countP (isOkExit w)

theorem okExits_append (w : Who) (l1 l2 : List Event) : okExits w (l1 ++ l2) = okExits w l1 + okExits w l2 := by
  simp [okExits, List.countP_append]

theorem okExits_nil (w : Who) : okExits w [] = 0 := rfl

def ValidReg (st : St) : Prop :=
  (∀ s k n, n ∈ agetL (st.scope s).providers k → n < st.ctors.length) ∧
  (∀ s k d, aget (st.scope s).decorators k = some d → d < st.decos.length)

theorem ValidReg.of_frame {a b : St} (h : ValidReg a) (hf : RegFrame a b) : ValidReg b := by
  constructor
  · intro s k n hn
    rw [← (hf.scopeReg s).providers] at hn
    rw [← hf.ctorsLen]; exact h.1 s k n hn
  · intro s k d hd
    rw [← (hf.scopeReg s).decorators] at hd
    rw [← hf.decosLen]; exact h.2 s k d hd

structure Flags (a b : St) : Prop where
  reg : RegFrame a b
  ext : ∃ l, b.hist = a.hist ++ l ∧ b.log = a.log ++ l ∧
    (∀ n, okExits (.ctor n) l ≤ 1 ∧
          ((a.ctor n).called = true → okExits (.ctor n) l = 0) ∧
          ((a.ctor n).onStack = true → okExits (.ctor n) l = 0) ∧
          (okExits (.ctor n) l = 1 → (b.ctor n).called = true)) ∧
    (∀ d, okExits (.deco d) l ≤ 1 ∧
          ((a.deco d).state = .called → okExits (.deco d) l = 0) ∧
          ((a.deco d).state = .onStack → okExits (.deco d) l = 0) ∧
          (okExits (.deco d) l = 1 → (b.deco d).state = .called))
  ctorFrame : ∀ n, (a.ctor n).onStack = true → b.ctor n = a.ctor n
  ctorBal : ∀ n, (b.ctor n).onStack = (a.ctor n).onStack
  ctorMono : ∀ n, (a.ctor n).called = true → (b.ctor n).called = true
  decoFrame : ∀ d, (a.deco d).state = .onStack → b.deco d = a.deco d
  decoBal : ∀ d, ((b.deco d).state = .onStack ↔ (a.deco d).state = .onStack)
  decoMono : ∀ d, (a.deco d).state = .called → (b.deco d).state = .called
  range : ∀ l, b.hist = a.hist ++ l →
    (∀ n, a.ctors.length ≤ n → okExits (.ctor n) l = 0) ∧ (∀ d, a.decos.length ≤ d → okExits (.deco d) l = 0)

/-- what `Flags` says of one node of either table: `c` and `o` read its built and on-stack marks, `x` and `y` are the
    node before and after, `k` counts its successful executions in between, `out` says the table has no such node -/
structure NodeFlags {α : Type} (c o : α → Prop) (out : Prop) (x y : α) (k : Nat) : Prop where
  le : k ≤ 1
  built : c x → k = 0
  busy : o x → k = 0
  absent : out → k = 0
  done : k = 1 → c y
  frame : o x → y = x
  bal : o y ↔ o x
  mono : c x → c y

namespace NodeFlags
variable {α : Type} {c o : α → Prop} {out : Prop} {x y z : α} {k k' : Nat}

theorem refl : NodeFlags c o out x x 0 :=
  ⟨Nat.zero_le 1, fun _ => rfl, fun _ => rfl, fun _ => rfl, nofun, fun _ => rfl, Iff.rfl, id⟩

theorem trans (h1 : NodeFlags c o out x y k) (h2 : NodeFlags c o out y z k') : NodeFlags c o out x z (k + k') where
  le := by
    by_cases h : k = 1
    · rw [h2.built (h1.done h)]; exact h1.le
    · have := h1.le; have := h2.le; omega
  built h := by rw [h1.built h, h2.built (h1.mono h)]
  busy h := by rw [h1.busy h, h2.busy (h1.bal.2 h)]
  absent h := by rw [h1.absent h, h2.absent h]
  done h := by
    by_cases hk : k = 1
    · exact h2.mono (h1.done hk)
    · exact h2.done (by have := h1.le; omega)
  frame h := by rw [h2.frame (h1.bal.2 h), h1.frame h]
  bal := h2.bal.trans h1.bal
  mono h := h2.mono (h1.mono h)

theorem idle (hc : ¬ c x) (ho : ¬ o x) (hin : ¬ out) (hle : k ≤ 1) (hdone : k = 1 → c z) (hz : ¬ o z) :
    NodeFlags c o out x z k :=
  ⟨hle, fun h => absurd h hc, fun h => absurd h ho, fun h => absurd h hin, hdone, fun h => absurd h ho,
    ⟨fun h => absurd h hz, fun h => absurd h ho⟩, fun h => absurd h hc⟩

end NodeFlags

theorem flags_iff {a b : St} : Flags a b ↔ RegFrame a b ∧ ∃ l, b.hist = a.hist ++ l ∧ b.log = a.log ++ l ∧
    (∀ n, NodeFlags (·.called = true) (·.onStack = true) (a.ctors.length ≤ n) (a.ctor n) (b.ctor n)
      (okExits (.ctor n) l)) ∧
    (∀ d, NodeFlags (·.state = .called) (·.state = .onStack) (a.decos.length ≤ d) (a.deco d) (b.deco d)
      (okExits (.deco d) l)) := by
  constructor
  · intro h
    obtain ⟨l, hh, hl, hc, hd⟩ := h.ext
    obtain ⟨rc, rd⟩ := h.range l hh
    exact ⟨h.reg, l, hh, hl,
      fun n => ⟨(hc n).1, (hc n).2.1, (hc n).2.2.1, rc n, (hc n).2.2.2, h.ctorFrame n, Bool.eq_iff_iff.1 (h.ctorBal n),
        h.ctorMono n⟩,
      fun d => ⟨(hd d).1, (hd d).2.1, (hd d).2.2.1, rd d, (hd d).2.2.2, h.decoFrame d, h.decoBal d, h.decoMono d⟩⟩
  · rintro ⟨hr, l, hh, hl, hc, hd⟩
    exact {
      reg := hr
      ext := ⟨l, hh, hl, fun n => ⟨(hc n).le, (hc n).built, (hc n).busy, (hc n).done⟩,
        fun d => ⟨(hd d).le, (hd d).built, (hd d).busy, (hd d).done⟩⟩
      ctorFrame := fun n => (hc n).frame
      ctorBal := fun n => Bool.eq_iff_iff.2 (hc n).bal
      ctorMono := fun n => (hc n).mono
      decoFrame := fun d => (hd d).frame
      decoBal := fun d => (hd d).bal
      decoMono := fun d => (hd d).mono
      range := fun l' hl' => by
        obtain rfl : l' = l := List.append_cancel_left (hl'.symm.trans hh)
        exact ⟨fun n => (hc n).absent, fun d => (hd d).absent⟩ }

theorem Flags.refl (a : St) : Flags a a :=
  flags_iff.2 ⟨RegFrame.refl a, [], (List.append_nil _).symm, (List.append_nil _).symm,
    fun _ => NodeFlags.refl, fun _ => NodeFlags.refl⟩

theorem Flags.trans {a b c : St} (h1 : Flags a b) (h2 : Flags b c) : Flags a c := by
  obtain ⟨r1, l1, hh1, hl1, hc1, hd1⟩ := flags_iff.1 h1
  obtain ⟨r2, l2, hh2, hl2, hc2, hd2⟩ := flags_iff.1 h2
  refine flags_iff.2 ⟨r1.trans r2, l1 ++ l2, by rw [hh2, hh1, List.append_assoc], by rw [hl2, hl1, List.append_assoc],
    fun n => ?_, fun d => ?_⟩
  · rw [okExits_append]; exact (hc1 n).trans (r1.ctorsLen ▸ hc2 n)
  · rw [okExits_append]; exact (hd1 d).trans (r1.decosLen ▸ hd2 d)

theorem okExits_cb (w : Who) (l : List Event) (h : l = [] ∨ ∃ op who fn err rt, l = [.cb op who fn err rt]) :
    okExits w l = 0 := by
  rcases h with h | ⟨op, who, fn, err, rt, h⟩ <;> subst h <;> simp [okExits, isOkExit]

theorem okExits_bodyEvents (ctx : Ctx) (who : Who) (fn : Fn) (args : List Val) (st : St) (w : Who) :
    okExits w (bodyEvents ctx who fn args st) =
      if who = w ∧ exitKind ctx fn (ctx.beh fn.id (st.execCount fn.id)) = .ok then 1 else 0 := by
  simp only [bodyEvents, okExits, List.countP_cons, List.countP_nil, isOkExit]
  cases hk : exitKind ctx fn (ctx.beh fn.id (st.execCount fn.id)) <;> by_cases hw : who = w <;> simp [hw]

theorem okExits_tail (ctx : Ctx) (who : Who) (fn : Fn) (args : List Val) (st : St) (lb lc : List Event)
    (hb : (ctx.cfg.dry = true ∧ lb = []) ∨ (ctx.cfg.dry = false ∧ lb = bodyEvents ctx who fn args st))
    (hc : lc = [] ∨ ∃ op err rt, lc = [.cb op who fn.id err rt]) (w : Who) :
    okExits w (lb ++ lc) ≤ 1 ∧ (w ≠ who → okExits w (lb ++ lc) = 0) ∧
    (okExits w (lb ++ lc) = 1 → (callBody ctx who fn args st).1.commits = true) := by
  have hcb : okExits w lc = 0 := okExits_cb w lc (by
    rcases hc with h | ⟨op, err, rt, h⟩
    · exact Or.inl h
    · exact Or.inr ⟨_, _, _, _, _, h⟩)
  rw [okExits_append, hcb]
  rcases hb with ⟨_, h⟩ | ⟨hnd, h⟩
  · subst h; simp [okExits]
  · subst h
    rw [okExits_bodyEvents]
    refine ⟨by split <;> omega, ?_, ?_⟩
    · intro hw
      have : ¬ (who = w) := fun h => hw h.symm
      simp [this]
    · intro h1
      by_cases hk : exitKind ctx fn (ctx.beh fn.id (st.execCount fn.id)) = .ok
      · exact commits_of_ok_exit ctx hnd who fn args st hk
      · simp [hk] at h1

def PresV (V : St → Prop) (R : St → St → Prop) {α : Type} (m : EM α) : Prop := ∀ st, V st → R st (m st).2

section
variable {V : St → Prop} {R : St → St → Prop} (hR : StepRel R) (hV : ∀ {a b}, V a → R a b → V b)
include hR hV

theorem presV_shallowCheck (c : Nat) (ps : List Param) : PresV V R (shallowCheck c ps) := by
  intro st _
  unfold shallowCheck
  split <;> exact hR.refl st

end

theorem flags_valid {a b : St} (h : ValidReg a) (hf : Flags a b) : ValidReg b := h.of_frame hf.reg

structure CtorTailFacts (n : Nat) (a b : St) : Prop where
  reg : RegFrame a b
  ext : ∃ l, b.hist = a.hist ++ l ∧ b.log = a.log ++ l ∧ (∀ w, w ≠ .ctor n → okExits w l = 0) ∧
    okExits (.ctor n) l ≤ 1 ∧ (okExits (.ctor n) l = 1 → (b.ctor n).called = true)
  others : ∀ m, m ≠ n → b.ctor m = a.ctor m
  onStack : (b.ctor n).onStack = (a.ctor n).onStack
  mono : (a.ctor n).called = true → (b.ctor n).called = true
  decos : b.decos = a.decos

theorem CtorTailFacts.refl (n : Nat) (a : St) : CtorTailFacts n a a :=
  ⟨RegFrame.refl a, ⟨[], by simp, by simp, fun _ _ => rfl, by simp [okExits], fun h => by simp [okExits] at h⟩,
   fun _ _ => rfl, rfl, fun h => h, rfl⟩

theorem ctorTail_facts (ctx : Ctx) (n : Nat) (node : CtorNode) (args : List Val) (st : St) (hn : n < st.ctors.length) :
    CtorTailFacts n st (ctorTail ctx n node args st).2 := by
  obtain ⟨lb, lc, hh, hl, hb, hc⟩ := ctorTail_log ctx n node args st
  have hok := okExits_tail ctx (.ctor n) node.fn args st lb lc hb hc
  refine ⟨regFrame_ctorTail ctx st n node args, ⟨lb ++ lc, hh, hl, fun w hw => (hok w).2.1 hw, (hok _).1, ?_⟩, ?_, ?_, ?_,
    ctorTail_decos ctx n node args st⟩
  · intro h
    rw [ctorTail_ctor]
    simp [(hok _).2.2 h, hn]
  · intro m hm
    rw [ctorTail_ctor]
    simp [hm.symm]
  · rw [ctorTail_ctor]; split <;> rfl
  · intro h
    rw [ctorTail_ctor]; split
    · rfl
    · exact h

structure DecoTailFacts (d : Nat) (a b : St) : Prop where
  reg : RegFrame a b
  ext : ∃ l, b.hist = a.hist ++ l ∧ b.log = a.log ++ l ∧ (∀ w, w ≠ .deco d → okExits w l = 0) ∧
    okExits (.deco d) l ≤ 1 ∧ (okExits (.deco d) l = 1 → (b.deco d).state = .called)
  others : ∀ m, m ≠ d → b.deco m = a.deco m
  keep : (b.deco d).state = .called ∨ (b.deco d).state = (a.deco d).state
  ctors : b.ctors = a.ctors

theorem DecoTailFacts.refl (d : Nat) (a : St) : DecoTailFacts d a a :=
  ⟨RegFrame.refl a, ⟨[], by simp, by simp, fun _ _ => rfl, by simp [okExits], fun h => by simp [okExits] at h⟩,
   fun _ _ => rfl, Or.inr rfl, rfl⟩

theorem decoTail_facts (ctx : Ctx) (d : Nat) (node : DecoNode) (args : List Val) (st : St) (hd : d < st.decos.length) :
    DecoTailFacts d st (decoTail ctx d node args st).2 := by
  obtain ⟨lb, lc, hh, hl, hb, hc⟩ := decoTail_log ctx d node args st
  have hok := okExits_tail ctx (.deco d) node.fn args st lb lc hb hc
  refine ⟨regFrame_decoTail ctx st d node args, ⟨lb ++ lc, hh, hl, fun w hw => (hok w).2.1 hw, (hok _).1, ?_⟩, ?_, ?_,
    decoTail_ctors ctx d node args st⟩
  · intro h
    rw [decoTail_deco]
    simp [(hok _).2.2 h, hd]
  · intro m hm
    rw [decoTail_deco]
    simp [hm.symm]
  · rw [decoTail_deco]; split
    · exact Or.inl rfl
    · exact Or.inr rfl

/-- `onStack = true; defer onStack = false` around building the arguments and running the function -/
theorem ctor_bracket (n : Nat) (st s3 s4 : St) (hn : n < st.ctors.length)
    (hc : (st.ctor n).called = false) (ho : (st.ctor n).onStack = false)
    (h1 : Flags (st.modCtor n fun x => { x with onStack := true }) s3) (h2 : CtorTailFacts n s3 s4) :
    Flags st (s4.modCtor n fun x => { x with onStack := false }) := by
  obtain ⟨r1, l1, hh1, hl1, hc1, hd1⟩ := flags_iff.1 h1
  obtain ⟨lt, hht, hlt, hwt, hnt, hct⟩ := h2.ext
  have r0 := regFrame_onStack st n true
  have hn4 : n < s4.ctors.length := by rw [← h2.reg.ctorsLen, ← r1.ctorsLen, ← r0.ctorsLen]; exact hn
  refine flags_iff.2 ⟨r0.trans (r1.trans (h2.reg.trans (regFrame_onStack s4 n false))), l1 ++ lt,
    by show s4.hist = _; rw [hht, hh1, List.append_assoc]; rfl, by show s4.log = _; rw [hlt, hl1, List.append_assoc]; rfl,
    fun m => ?_, fun d => ?_⟩
  · rw [okExits_append]
    by_cases hm : m = n
    · subst hm
      rw [(hc1 m).busy (by rw [ctor_modCtor, if_pos ⟨rfl, hn⟩]), Nat.zero_add, ctor_modCtor, if_pos ⟨rfl, hn4⟩]
      exact .idle (by rw [hc]; nofun) (by rw [ho]; nofun) (Nat.not_le_of_lt hn) hnt hct nofun
    · have e := hc1 m
      rw [ctor_modCtor, if_neg fun h => hm h.1.symm, ← r0.ctorsLen] at e
      rw [hwt _ fun h => hm (Who.ctor.inj h), ctor_modCtor, if_neg fun h => hm h.1.symm, h2.others m hm]
      exact e
  · rw [okExits_append, hwt (.deco d) fun h => Who.noConfusion h]
    show NodeFlags _ _ _ _ (s4.deco d) _
    rw [deco_of_decos_eq h2.decos]
    exact hd1 d

/-- `state = onStack; defer (reset to ready unless called)` around building the arguments and running the decorator -/
theorem deco_bracket (d : Nat) (st s3 s4 : St) (hd : d < st.decos.length)
    (hs : (st.deco d).state ≠ .called) (ho : (st.deco d).state ≠ .onStack)
    (h1 : Flags (st.modDeco d fun x => { x with state := .onStack }) s3) (h2 : DecoTailFacts d s3 s4) :
    Flags st (s4.modDeco d fun x => if x.state == .called then x else { x with state := .ready }) := by
  obtain ⟨r1, l1, hh1, hl1, hc1, hd1⟩ := flags_iff.1 h1
  obtain ⟨lt, hht, hlt, hwt, hnt, hct⟩ := h2.ext
  have r0 := regFrame_decoOnStack st d
  have hd4 : d < s4.decos.length := by rw [← h2.reg.decosLen, ← r1.decosLen, ← r0.decosLen]; exact hd
  refine flags_iff.2 ⟨r0.trans (r1.trans (h2.reg.trans (regFrame_decoFinally s4 d))), l1 ++ lt,
    by show s4.hist = _; rw [hht, hh1, List.append_assoc]; rfl, by show s4.log = _; rw [hlt, hl1, List.append_assoc]; rfl,
    fun n => ?_, fun m => ?_⟩
  · rw [okExits_append, hwt (.ctor n) fun h => Who.noConfusion h]
    show NodeFlags _ _ _ _ (s4.ctor n) _
    rw [ctor_of_ctors_eq h2.ctors]
    exact hc1 n
  · rw [okExits_append]
    by_cases hm : m = d
    · subst hm
      rw [(hd1 m).busy (by rw [deco_modDeco, if_pos ⟨rfl, hd⟩]), Nat.zero_add, deco_modDeco, if_pos ⟨rfl, hd4⟩]
      refine .idle hs ho (Nat.not_le_of_lt hd) hnt (fun h => ?_) ?_
      · rw [if_pos (by rw [hct h]; rfl)]; exact hct h
      · split
        · next h => rw [eq_of_beq h]; nofun
        · nofun
    · have e := hd1 m
      rw [deco_modDeco, if_neg fun h => hm h.1.symm, ← r0.decosLen] at e
      rw [hwt _ fun h => hm (Who.deco.inj h), deco_modDeco, if_neg fun h => hm h.1.symm, h2.others m hm]
      exact e

/-! ### the resolver respects the flag discipline -/

def VL (L L' : Nat) (s : St) : Prop := ValidReg s ∧ s.ctors.length = L ∧ s.decos.length = L'

theorem VL.of_frame {L L' : Nat} {a b : St} (h : VL L L' a) (hf : RegFrame a b) : VL L L' b :=
  ⟨h.1.of_frame hf, hf.ctorsLen ▸ h.2.1, hf.decosLen ▸ h.2.2⟩

theorem VL.step {L L' : Nat} {a b : St} (h : VL L L' a) (hf : Flags a b) : VL L L' b := h.of_frame hf.reg

theorem VL.modCtor {L L' : Nat} {st : St} (h : VL L L' st) (n : Nat) (b : Bool) :
    VL L L' (st.modCtor n fun x => { x with onStack := b }) := h.of_frame (regFrame_onStack st n b)

theorem VL.modDeco {L L' : Nat} {st : St} (h : VL L L' st) (d : Nat) :
    VL L L' (st.modDeco d fun x => { x with state := .onStack }) := h.of_frame (regFrame_decoOnStack st d)

theorem ctorOutcome_ok_iff (ctx : Ctx) (f : Nat) (r : BodyRes) :
    (∃ u, (ctorOutcome ctx f r).1 = .ok u) ↔ r.commits = true := by
  cases r <;> simp [ctorOutcome, BodyRes.commits]
  split <;> simp

theorem decoOutcome_ok_iff (ctx : Ctx) (f : Nat) (r : BodyRes) :
    (∃ u, (decoOutcome ctx f r).1 = .ok u) ↔ r.commits = true := by
  cases r <;> simp [decoOutcome, BodyRes.commits]
  split <;> simp

/-- between setting and clearing a node's mark: the arguments are built under the flag discipline up to some `s3`,
    from which the node's `tail` runs; `Facts` is what the tail guarantees, `Same` what it guarantees when it fails -/
theorem inner_sat (ctx : Ctx) (fuel c c' : Nat) (ps : List Param) (tail : List Val → EM Unit) (L L' : Nat)
    {Facts Same : St → St → Prop} (hfacts : ∀ s, Facts s s) (hsame : ∀ s, Same s s)
    (hL : PresV (VL L L') Flags (buildList ctx fuel ps c')) (st1 : St) (hv : VL L L' st1)
    (htail : ∀ args s3, VL L L' s3 → Facts s3 (tail args s3).2 ∧ (∀ e, (tail args s3).1 = .error e → Same (tail args s3).2 s3)) :
    Sat ((EM.bind (shallowCheck c ps) fun _ =>
        EM.bind (EM.wrapErr (buildList ctx fuel ps c') .argsFailed) fun args => tail args) st1)
      (fun _ s4 => ∃ s3, Flags st1 s3 ∧ Facts s3 s4)
      (fun _ s4 => ∃ s3, Flags st1 s3 ∧ Facts s3 s4 ∧ Same s4 s3) := by
  refine bind_sat ((shallowCheck_sat _ _ _).mono (fun _ _ e => e) ?_) ?_
  · rintro _ _ ⟨rfl, _⟩
    exact ⟨_, Flags.refl _, hfacts _, hsame _⟩
  rintro _ st1 rfl
  refine bind_sat (wrapErr_sat (E' := fun _ s => ∃ s3, Flags st1 s3 ∧ Facts s3 s ∧ Same s s3)
    ((sat_state.2 (hL _ hv)).mono (fun _ _ h => h) fun _ s h => ⟨s, h, hfacts _, hsame _⟩) fun _ _ h => h) ?_
  intro args s3 h3
  obtain ⟨hf, hs⟩ := htail args s3 (hv.step h3)
  exact sat_iff.2 ⟨fun _ _ => ⟨s3, h3, hf⟩, fun e he => ⟨s3, h3, hf, hs e he⟩⟩

/-- the part of `constructorNode.Call` between setting and clearing `onStack`; when it ends with a failure the
    constructor's `called` flag is what it was when its function was reached -/
theorem ctor_inner (ctx : Ctx) (fuel n c : Nat) (node : CtorNode) (L L' : Nat) (hn : n < L)
    (hL : PresV (VL L L') Flags (buildList ctx fuel node.params c)) (st1 : St) (hv : VL L L' st1) :
    Sat ((EM.bind (shallowCheck c node.params) fun _ =>
        EM.bind (EM.wrapErr (buildList ctx fuel node.params c) .argsFailed) fun args =>
        ctorTail ctx n node args) st1)
      (fun _ s4 => ∃ s3, Flags st1 s3 ∧ CtorTailFacts n s3 s4)
      (fun _ s4 => ∃ s3, Flags st1 s3 ∧ CtorTailFacts n s3 s4 ∧ (s4.ctor n).called = (s3.ctor n).called) := by
  refine inner_sat ctx fuel c c node.params (ctorTail ctx n node) L L' (CtorTailFacts.refl n)
    (Same := fun s4 s3 => (s4.ctor n).called = (s3.ctor n).called) (fun _ => rfl) hL st1 hv
    fun args s3 h3 => ⟨ctorTail_facts ctx n node args s3 (h3.2.1 ▸ hn), fun e he => ?_⟩
  have hnc : (callBody ctx (.ctor n) node.fn args s3).1.commits ≠ true := by
    intro hcm
    obtain ⟨u, hu⟩ := (ctorOutcome_ok_iff ctx node.fn.id _).mpr hcm
    simp only [ctorTail] at he
    rw [hu] at he; cases he
  rw [ctorTail_ctor]; simp [hnc]

theorem deco_inner (ctx : Ctx) (fuel d c : Nat) (node : DecoNode) (L L' : Nat) (hd : d < L')
    (hL : PresV (VL L L') Flags (buildList ctx fuel node.params node.s)) (st1 : St) (hv : VL L L' st1) :
    Sat ((EM.bind (shallowCheck c node.params) fun _ =>
        EM.bind (EM.wrapErr (buildList ctx fuel node.params node.s) .argsFailed) fun args =>
        decoTail ctx d node args) st1)
      (fun _ s4 => ∃ s3, Flags st1 s3 ∧ DecoTailFacts d s3 s4)
      (fun _ s4 => ∃ s3, Flags st1 s3 ∧ DecoTailFacts d s3 s4 ∧ (s4.deco d).state = (s3.deco d).state) := by
  refine inner_sat ctx fuel c node.s node.params (decoTail ctx d node) L L' (DecoTailFacts.refl d)
    (Same := fun s4 s3 => (s4.deco d).state = (s3.deco d).state) (fun _ => rfl) hL st1 hv
    fun args s3 h3 => ⟨decoTail_facts ctx d node args s3 (h3.2.2 ▸ hd), fun e he => ?_⟩
  have hnc : (callBody ctx (.deco d) node.fn args s3).1.commits ≠ true := by
    intro hcm
    obtain ⟨u, hu⟩ := (decoOutcome_ok_iff ctx node.fn.id _).mpr hcm
    simp only [decoTail] at he
    rw [hu] at he; cases he
  rw [decoTail_deco]; simp [hnc]

theorem engine_flags (ctx : Ctx) (L L' : Nat) :
    ∀ fuel,
      (∀ n c, n < L → PresV (VL L L') Flags (callCtor ctx fuel n c)) ∧
      (∀ d s st, d < L' → VL L L' st → (st.deco d).state ≠ .onStack → Flags st (callDeco ctx fuel d s st).2) ∧
      (∀ k opt c, PresV (VL L L') Flags (buildSingle ctx fuel k opt c)) ∧
      (∀ k soft c, PresV (VL L L') Flags (buildGroup ctx fuel k soft c)) ∧
      (∀ p c, PresV (VL L L') Flags (buildParam ctx fuel p c)) ∧
      (∀ ps c, PresV (VL L L') Flags (buildList ctx fuel ps c)) := by
  -- as an invariant: `Flags` from a fixed earlier state `st0` with a valid registry, which every later state then has
  have key : ∀ fuel,
      (∀ n c st0 st, n < L → VL L L' st0 → Flags st0 st →
        Sat (callCtor ctx fuel n c st) (fun _ => Flags st0) (fun _ => Flags st0)) ∧
      (∀ d s st0 st, d < L' → VL L L' st0 → Flags st0 st → (st.deco d).state ≠ .onStack →
        Sat (callDeco ctx fuel d s st) (fun _ => Flags st0) (fun _ => Flags st0)) ∧
      (∀ k opt c st0 st, VL L L' st0 → Flags st0 st →
        Sat (buildSingle ctx fuel k opt c st) (fun _ => Flags st0) (fun _ => Flags st0)) ∧
      (∀ k soft c st0 st, VL L L' st0 → Flags st0 st →
        Sat (buildGroup ctx fuel k soft c st) (fun _ => Flags st0) (fun _ => Flags st0)) ∧
      (∀ p c st0 st, VL L L' st0 → Flags st0 st →
        Sat (buildParam ctx fuel p c st) (fun _ => Flags st0) (fun _ => Flags st0)) ∧
      (∀ ps c st0 st, VL L L' st0 → Flags st0 st →
        Sat (buildList ctx fuel ps c st) (fun _ => Flags st0) (fun _ => Flags st0)) := by
    intro fuel
    induction fuel with
    | zero =>
      refine ⟨?_, ?_, ?_, ?_, ?_, ?_⟩ <;> intros
      · rw [callCtor_zero]; assumption
      · rw [callDeco_zero]; assumption
      · rw [buildSingle_zero]; assumption
      · rw [buildGroup_zero]; assumption
      · rw [buildParam_zero]; assumption
      · rw [buildList_zero]; assumption
    | succ fuel ih =>
      obtain ⟨ihC, ihD, ihS, ihG, ihP, ihL⟩ := ih
      have hL : ∀ ps c, PresV (VL L L') Flags (buildList ctx fuel ps c) :=
        fun ps c s hs => sat_state.1 (ihL ps c s s hs (Flags.refl s))
      refine ⟨?_, ?_, ?_, ?_, ?_, ?_⟩
      · intro n c st0 st hn hv0 h0
        have hv := hv0.step h0
        rw [callCtor_succ]
        split
        · exact h0
        · rename_i hcalled
          split
          · exact h0
          · rename_i hon
            have hbr : ∀ s3 s4, Flags (st.modCtor n fun x => { x with onStack := true }) s3 → CtorTailFacts n s3 s4 →
                Flags st0 (s4.modCtor n fun x => { x with onStack := false }) := fun s3 s4 h1 h2 =>
              h0.trans (ctor_bracket n st s3 s4 (by rw [hv.2.1]; exact hn) (by simpa using hcalled) (by simpa using hon) h1 h2)
            refine finally_sat (ctor_inner ctx fuel n c (st.ctor n) L L' hn (hL _ _) _ (hv.modCtor n true)) ?_ ?_
            · rintro _ s4 ⟨s3, h1, h2⟩; exact hbr s3 s4 h1 h2
            · rintro _ s4 ⟨s3, h1, h2, _⟩; exact hbr s3 s4 h1 h2
      · intro d s st0 st hd hv0 h0 hne
        have hv := hv0.step h0
        rw [callDeco_succ]
        split
        · exact h0
        · rename_i hcalled
          have hbr : ∀ s3 s4, Flags (st.modDeco d fun x => { x with state := .onStack }) s3 → DecoTailFacts d s3 s4 →
              Flags st0 (s4.modDeco d fun x => if x.state == .called then x else { x with state := .ready }) :=
            fun s3 s4 h1 h2 => h0.trans (deco_bracket d st s3 s4 (by rw [hv.2.2]; exact hd)
              (fun h => hcalled (by simp [h])) hne h1 h2)
          refine finally_sat (deco_inner ctx fuel d s (st.deco d) L L' hd (hL _ _) _ (hv.modDeco d)) ?_ ?_
          · rintro _ s4 ⟨s3, h1, h2⟩; exact hbr s3 s4 h1 h2
          · rintro _ s4 ⟨s3, h1, h2, _⟩; exact hbr s3 s4 h1 h2
      · intro k opt c st0 st hv0 h0
        have hv := hv0.step h0
        rw [buildSingle_succ]
        split
        · rename_i d ds hfd
          obtain ⟨_, _, _, hdec, hst, _⟩ := findDeco_spec st k _ d ds hfd
          have hdl : d < L' := by rw [← hv.2.2]; exact hv.1.2 ds k d hdec
          refine bind_sat (wrapErr_sat (ihD d ds st0 st hdl hv0 h0 hst) fun _ _ h => h) fun _ s' h => ?_
          split <;> exact h
        · split
          · exact h0
          · split
            · exact h0
            · split <;> exact h0
            · rename_i pc ns hfp
              obtain ⟨_, _, _, hns, _⟩ := findProviders_provs st k _ pc ns hfp
              refine bind_sat (firstM_inv h0 fun n hn s1 h1 => ?_) fun early s' h => ?_
              · have hnL : n < L := by rw [← hv.2.1]; exact hv.1.1 pc k n (hns ▸ hn)
                exact sat_state.2 (providerStep_state .. ▸ sat_state.1 (ihC n _ st0 s1 hnL hv0 h1))
              · split
                · exact h
                · split <;> exact h
      · intro k soft c st0 st hv0 h0
        rw [buildGroup_succ]
        refine bind_sat (forEachM_inv h0 fun s _ s1 h1 => ?_) fun _ s2 h2 => ?_
        · have hv1 := hv0.step h1
          simp only [groupDecoStep]
          split
          · rename_i d hdec
            split
            · exact h1
            · rename_i hne
              exact wrapErr_sat (ihD d s st0 s1 (by rw [← hv1.2.2]; exact hv1.1.2 s k d hdec) hv0 h1
                (fun hc => hne (by simp [hc]))) fun _ _ h => h
          · exact h1
        · split
          · exact h2
          · refine bind_sat (R := fun _ => Flags st0) ?_ fun _ s5 h5 => h5
            split
            · exact h2
            · refine forEachM_inv h2 fun s _ s3 h3 => ?_
              have hv3 := hv0.step h3
              simp only [groupProvStep]
              exact forEachM_inv h3 fun n hn s4 h4 =>
                wrapErr_sat (ihC n _ st0 s4 (by rw [← hv3.2.1]; exact hv3.1.1 s k n hn) hv0 h4) fun _ _ h => h
      · intro p c st0 st hv0 h0
        rw [buildParam_succ]
        cases p with
        | single k opt => exact ihS k opt c st0 st hv0 h0
        | grouped ty k soft pg => exact ihG k soft c st0 st hv0 h0
        | object ty fs =>
          refine bind_sat (mapM_inv h0 fun f _ s h => ihP f c st0 s hv0 h) fun hard s1 h1 => ?_
          exact bind_sat (mapM_inv h1 fun f _ s h => ihP f c st0 s hv0 h) fun soft s2 h2 => h2
      · intro ps c st0 st hv0 h0
        rw [buildList_succ]
        exact mapM_inv h0 fun p _ s h => ihP p c st0 s hv0 h
  intro fuel
  obtain ⟨hC, hD, hS, hG, hP, hL⟩ := key fuel
  exact ⟨fun n c hn st hv => sat_state.1 (hC n c st st hn hv (Flags.refl st)),
    fun d s st hd hv hne => sat_state.1 (hD d s st st hd hv (Flags.refl st) hne),
    fun k opt c st hv => sat_state.1 (hS k opt c st st hv (Flags.refl st)),
    fun k soft c st hv => sat_state.1 (hG k soft c st st hv (Flags.refl st)),
    fun p c st hv => sat_state.1 (hP p c st st hv (Flags.refl st)),
    fun ps c st hv => sat_state.1 (hL ps c st st hv (Flags.refl st))⟩

end Dig

#print axioms Dig.engine_flags
