import DigModel.Proofs.Scopes
import DigModel.Proofs.Frame
import DigModel.Proofs.Sim
/-
  The *core* of a container: everything dig's control flow can depend on.  Cached values are blanked
  (only the keys under which something is cached remain), logs, clock and execution counters are
  dropped.  Two containers with the same core behave alike as far as verdicts are concerned — this is
  what makes a DryRun container "validate the same".
-/
namespace Dig

def blankVals (m : List (Key × Val)) : List (Key × Val) := m.map fun p => (p.1, Val.zero 0)
def blankGroups (m : List (Key × List Val)) : List (Key × List Val) := m.map fun p => (p.1, [])

def blankScope (sc : ScopeSt) : ScopeSt :=
  { sc with values := blankVals sc.values, decoratedValues := blankVals sc.decoratedValues,
            groups := blankGroups sc.groups, decoratedGroups := blankVals sc.decoratedGroups }

def core (st : St) : St :=
  { st with scopes := st.scopes.map blankScope, execs := [], clock := 0, log := [], hist := [] }

theorem aget_map_snd {β γ : Type} (f : β → γ) (m : List (Key × β)) (k : Key) :
    aget (m.map fun p => (p.1, f p.2)) k = (aget m k).map f := by
  induction m with
  | nil => rfl
  | cons p rest ih =>
    simp only [List.map_cons, aget]
    split
    · rfl
    · exact ih

theorem map_snd_aset {β γ : Type} (f : β → γ) (m : List (Key × β)) (k : Key) (v : β) :
    (aset m k v).map (fun p => (p.1, f p.2)) = aset (m.map fun p => (p.1, f p.2)) k (f v) := by
  induction m with
  | nil => rfl
  | cons p rest ih =>
    simp only [List.map_cons, aset]
    split
    · rfl
    · rw [List.map_cons, ih]

theorem aget_blankVals (m : List (Key × Val)) (k : Key) : aget (blankVals m) k = (aget m k).map fun _ => Val.zero 0 :=
  aget_map_snd (fun _ => Val.zero 0) m k

theorem blankVals_aset (m : List (Key × Val)) (k : Key) (v : Val) :
    blankVals (aset m k v) = aset (blankVals m) k (Val.zero 0) := map_snd_aset (fun _ => Val.zero 0) m k v

theorem blankGroups_aset (m : List (Key × List Val)) (k : Key) (vs : List Val) :
    blankGroups (aset m k vs) = aset (blankGroups m) k [] := map_snd_aset (fun _ => []) m k vs

theorem blankGroups_submitAll (m : List (Key × List Val)) (k : Key) (vs : List Val) :
    blankGroups (submitAll m k vs) = aset (blankGroups m) k [] := blankGroups_aset m k _

structure BlankEq (a b : ScopeSt) : Prop where
  parent : a.parent = b.parent
  children : a.children = b.children
  providers : a.providers = b.providers
  decorators : a.decorators = b.decorators
  nodes : a.nodes = b.nodes
  gh : a.gh = b.gh
  verified : a.verified = b.verified
  values : blankVals a.values = blankVals b.values
  dvalues : blankVals a.decoratedValues = blankVals b.decoratedValues
  groups : blankGroups a.groups = blankGroups b.groups
  dgroups : blankVals a.decoratedGroups = blankVals b.decoratedGroups

theorem blankEq_iff (a b : ScopeSt) : blankScope a = blankScope b ↔ BlankEq a b := by
  constructor
  · intro h
    exact ⟨congrArg (·.parent) h, congrArg (·.children) h, congrArg (·.providers) h, congrArg (·.decorators) h,
      congrArg (·.nodes) h, congrArg (·.gh) h, congrArg (·.verified) h, congrArg (·.values) h,
      congrArg (·.decoratedValues) h, congrArg (·.groups) h, congrArg (·.decoratedGroups) h⟩
  · rintro ⟨h1, h2, h3, h4, h5, h6, h7, h8, h9, h10, h11⟩
    cases a; cases b
    cases h1; cases h2; cases h3; cases h4; cases h5; cases h6; cases h7
    simp only at h8 h9 h10 h11
    simp only [blankScope, h8, h9, h10, h11]

theorem BlankEq.refl (a : ScopeSt) : BlankEq a a := ⟨rfl, rfl, rfl, rfl, rfl, rfl, rfl, rfl, rfl, rfl, rfl⟩

theorem isSome_of_blankVals {m m' : List (Key × Val)} (h : blankVals m = blankVals m') (k : Key) :
    (aget m k).isSome = (aget m' k).isSome := by
  have := congrArg (fun m => (aget m k).isSome) h
  simpa only [aget_blankVals, Option.isSome_map] using this

theorem extractSlots_blank (env : TyEnv) (deco : Bool) (r r' : Ret) (slots : List RSlot) (sc sc' : ScopeSt)
    (h : BlankEq sc sc') : BlankEq (extractSlots env deco r sc slots) (extractSlots env deco r' sc' slots) := by
  refine extractSlots_rel env deco r r' slots BlankEq sc sc' (fun sc sc' w _ h => ?_) h
  cases w with
  | val k slot decl =>
    exact { h with values := by rw [CW.apply, CW.apply, blankVals_aset, blankVals_aset, h.values] }
  | grp k slot decl fl =>
    exact { h with groups := by rw [CW.apply, CW.apply, blankGroups_submitAll, blankGroups_submitAll, h.groups] }
  | dval k slot decl =>
    exact { h with dvalues := by rw [CW.apply, CW.apply, blankVals_aset, blankVals_aset, h.dvalues] }
  | dgrp k slot decl =>
    exact { h with dgroups := by rw [CW.apply, CW.apply, blankVals_aset, blankVals_aset, h.dgroups] }

structure CoreEq (a b : St) : Prop where
  ctors : a.ctors = b.ctors
  decos : a.decos = b.decos
  pgs : a.pgs = b.pgs
  len : a.scopes.length = b.scopes.length
  scope : ∀ j, BlankEq (a.scope j) (b.scope j)

theorem CoreEq.refl (a : St) : CoreEq a a := ⟨rfl, rfl, rfl, rfl, fun _ => BlankEq.refl _⟩

theorem CoreEq.ctor {a b : St} (h : CoreEq a b) (n : Nat) : a.ctor n = b.ctor n := congrArg (·.getD n default) h.ctors
theorem CoreEq.deco {a b : St} (h : CoreEq a b) (d : Nat) : a.deco d = b.deco d := congrArg (·.getD d default) h.decos

theorem CoreEq.ancestors {a b : St} (h : CoreEq a b) (s : Nat) : a.ancestors s = b.ancestors s := by
  unfold St.ancestors
  rw [h.len]
  exact ancestorsAux_congr _ _ h.len (fun j => (h.scope j).parent) _ _

theorem CoreEq.allProviders {a b : St} (h : CoreEq a b) (s : Nat) (k : Key) : a.allProviders s k = b.allProviders s k := by
  unfold St.allProviders
  rw [h.ancestors s]
  exact flatMap_congr' _ _ _ (fun x _ => by rw [(h.scope x).providers])

theorem CoreEq.left {a a' b : St} (h : CoreEq a b) (h1 : a'.ctors = a.ctors) (h2 : a'.decos = a.decos) (h3 : a'.pgs = a.pgs)
    (h4 : a'.scopes = a.scopes) : CoreEq a' b :=
  ⟨h1.trans h.ctors, h2.trans h.decos, h3.trans h.pgs, by rw [h4]; exact h.len,
   fun j => by rw [show a'.scope j = a.scope j from congrArg (·.getD j { parent := none }) h4]; exact h.scope j⟩

theorem CoreEq.right {a b b' : St} (h : CoreEq a b) (h1 : b'.ctors = b.ctors) (h2 : b'.decos = b.decos) (h3 : b'.pgs = b.pgs)
    (h4 : b'.scopes = b.scopes) : CoreEq a b' :=
  ⟨h.ctors.trans h1.symm, h.decos.trans h2.symm, h.pgs.trans h3.symm, by rw [h4]; exact h.len,
   fun j => by rw [show b'.scope j = b.scope j from congrArg (·.getD j { parent := none }) h4]; exact h.scope j⟩

theorem CoreEq.modCtor {a b : St} (h : CoreEq a b) (n : Nat) (f : CtorNode → CtorNode) :
    CoreEq (a.modCtor n f) (b.modCtor n f) :=
  ⟨congrArg (·.modify n f) h.ctors, h.decos, h.pgs, h.len, h.scope⟩

theorem CoreEq.modDeco {a b : St} (h : CoreEq a b) (d : Nat) (f : DecoNode → DecoNode) :
    CoreEq (a.modDeco d f) (b.modDeco d f) :=
  ⟨h.ctors, congrArg (·.modify d f) h.decos, h.pgs, h.len, h.scope⟩

theorem CoreEq.modScope {a b : St} (h : CoreEq a b) (s : Nat) (f g : ScopeSt → ScopeSt)
    (hfg : ∀ x y, BlankEq x y → BlankEq (f x) (g y)) : CoreEq (a.modScope s f) (b.modScope s g) := by
  refine ⟨h.ctors, h.decos, h.pgs, by simp only [St.modScope, List.length_modify, h.len], fun j => ?_⟩
  rw [scope_modScope, scope_modScope, h.len]
  split
  · exact hfg _ _ (h.scope j)
  · exact h.scope j

def SimR {α : Type} (ρ : α → α → Prop) (r1 r2 : Except Fail α × St) : Prop :=
  CoreEq r1.2 r2.2 ∧ RelOut ρ r1.1 r2.1

def TT {α : Type} : α → α → Prop := fun _ _ => True

theorem SimR.of_sim {α : Type} {ρ : α → α → Prop} {r1 r2 : Except Fail α × St} (h : Sim CoreEq ρ r1 r2) : SimR TT r1 r2 :=
  h.imp fun _ _ _ => trivial

theorem simR_wrapErr {α : Type} {ρ : α → α → Prop} {m1 m2 : EM α} (w : DErr → DErr) {a b : St}
    (hm : SimR ρ (m1 a) (m2 b)) : SimR ρ (EM.wrapErr m1 w a) (EM.wrapErr m2 w b) :=
  sim_wrapErr (Rel := CoreEq) w hm

end Dig
