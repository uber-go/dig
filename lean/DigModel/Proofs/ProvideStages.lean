import DigModel.Proofs.GraphMeaningGroups
/-
  The graph invariants through the stages of `apiProvide` (`provideRegister`, `provideVerify`): the registered
  container satisfies them, a dependency cycle is rejected at once, an accepted constructor is where it was provided.
-/
namespace Dig

theorem provideRegister_inv {st : St} (hg : GT st) (hb : OB st) (ctx : Ctx) (fn : Fn) (i s : Nat) (o : ProvideOpts)
    (target : Nat) (params : List Param) (results : List RSlot) (n : Nat) (w : St)
    (h : provideRegister ctx fn st i s o = .ok (target, params, results, n, w)) :
    GT w ∧ OB w ∧ target = (if o.export_ then St.root else s) ∧ w.scopes.length = st.scopes.length ∧
    w.subscopes target = st.subscopes target ∧
    n = st.ctors.length ∧ w.ctors.length = st.ctors.length + 1 ∧ (w.ctor n).s = target ∧ (w.ctor n).fn = fn ∧
    Work st w target := by
  obtain ⟨hn, keys, hr⟩ := provideRegister_ok h
  obtain ⟨ord, e⟩ := hr.ctor
  subst hn
  exact ⟨hg.register h, hb.register h, hr.target_eq, hr.work.len, hr.work.subscopes, rfl, hr.len, by rw [e], by rw [e],
    hr.work⟩

/-- **Without DeferAcyclicVerification, a Provide that closes a dependency cycle among constructors, as seen from the
    target scope or any of its descendants, fails at once** with a cycle error (`IsCycleDetected`), and the container
    is rolled back.  `w` is the container with the new constructor registered (`provideRegister`). -/
theorem provide_rejects_dependency_cycle {st : St} (hg : GT st) (hb : OB st) (ctx : Ctx) (hd : ctx.cfg.deferAcyclic = false)
    (fn : Fn) (i s : Nat) (o : ProvideOpts) (target : Nat) (params : List Param) (results : List RSlot) (n : Nat) (w : St)
    (hreg : provideRegister ctx fn st i s o = .ok (target, params, results, n, w))
    (sc : Nat) (hsc : sc ∈ st.subscopes target)
    (a : Nat) (l : List Nat) (hl : l ≠ []) (hin : ∀ m ∈ a :: l, GNode.ctor m ∈ (w.scope sc).gh)
    (hc : DepChain w sc (a :: l)) (hclosed : (a :: l).getLast (by simp) = a) :
    ∃ e, (apiProvide ctx fn st i s o).2.v = .err e ∧ e.isCycleDetected = true ∧
      EqButVerified st (apiProvide ctx fn st i s o).1 := by
  obtain ⟨hgw, hbw, _⟩ := provideRegister_inv hg hb ctx fn i s o target params results n w hreg
  obtain ⟨path, hcyc⟩ := cycle_is_found hgw.gm hbw sc a l hl hin hc hclosed
  rw [apiProvide_eq]
  unfold apiProvide'
  rw [hreg]
  simp only
  unfold provideVerify
  have hgs := graphSame_verifyScopes ctx.cfg (st.subscopes target) w
  have hok := verifyScopes_ok_acyclic ctx.cfg hd (st.subscopes target) w
  have herr := verifyScopes_err_cycle hbw ctx.cfg (st.subscopes target)
  have hw5 := (provideRegister_ok hreg).2.elim fun _ hr => hr.work.eqV (verifyScopes_eqV ctx.cfg (st.subscopes target) w)
  cases hvs : Dig.verifyScopes ctx.cfg (st.subscopes target) w with
  | mk r w5 =>
    rw [hvs] at hgs hok herr hw5
    simp only at hgs hok herr hw5
    cases r with
    | ok u =>
      exfalso
      have h1 := hok rfl sc hsc
      rw [← hgs.checkAcyclic sc, hcyc] at h1
      cases h1
    | error ec =>
      obtain ⟨sc', r⟩ := ec
      obtain ⟨p, rfl⟩ := herr sc' r rfl
      simp only
      exact ⟨_, rfl, by simp [DErr.isCycleDetected, DErr.chain], rollback_restores hw5⟩

/-- **An Invoke from a scope whose graph is not verified yet (DeferAcyclicVerification) and that sees a dependency cycle
    among constructors fails with a cycle error before anything is built or run.** -/
theorem invoke_rejects_dependency_cycle {st : St} (hg : GT st) (hb : OB st) (ctx : Ctx) (fn : Fn) (s : Nat) (info : Bool)
    (hnf : fn.nonfunc = none) (params : List Param) (w : St) (hpp : Dig.parseParams ctx.env st s fn = (.ok params, w))
    (hsh : (shallowCheck s params w).1 = .ok ()) (hunv : (w.scope s).verified = false)
    (a : Nat) (l : List Nat) (hl : l ≠ []) (hin : ∀ m ∈ a :: l, GNode.ctor m ∈ (w.scope s).gh)
    (hc : DepChain w s (a :: l)) (hclosed : (a :: l).getLast (by simp) = a) :
    ∃ e, (apiInvoke ctx fn st s info).2.v = .err e ∧ e.isCycleDetected = true ∧ (apiInvoke ctx fn st s info).2.ev = [] := by
  have hgw := hg.parseParams ctx.env s fn
  have hbw := hb.parseParams ctx.env s fn
  rw [hpp] at hgw hbw
  simp only at hgw hbw
  obtain ⟨path, hcyc⟩ := cycle_is_found hgw.gm hbw s a l hl hin hc hclosed
  rw [apiInvoke_eq]
  unfold apiInvoke'
  rw [hnf]
  simp only
  rw [hpp]
  simp only
  have hst := shallowCheck_state s params w
  cases hsc : shallowCheck s params w with
  | mk r2 w2 =>
    rw [hsc] at hst hsh; simp only at hst hsh; subst hst; subst hsh
    simp only
    unfold invokeCheck
    rw [if_neg (by rw [hunv]; simp), hcyc]
    exact ⟨_, rfl, by simp [DErr.isCycleDetected, DErr.chain], rfl⟩

theorem apiProvide_ok_shape (ctx : Ctx) (fn : Fn) (st : St) (i s : Nat) (o : ProvideOpts)
    (hok : (apiProvide ctx fn st i s o).2.v = .ok) :
    ∃ target params results n w w5, provideRegister ctx fn st i s o = .ok (target, params, results, n, w) ∧
      Dig.verifyScopes ctx.cfg (st.subscopes target) w = (.ok (), w5) ∧
      (apiProvide ctx fn st i s o).1 = w5.modScope target fun x => { x with nodes := x.nodes ++ [n] } := by
  revert hok
  exact apiProvide_stages ctx fn st i s o (P := fun x => x.2.v = .ok → ∃ target params results n w w5,
      provideRegister ctx fn st i s o = .ok (target, params, results, n, w) ∧
      Dig.verifyScopes ctx.cfg (st.subscopes target) w = (.ok (), w5) ∧
      x.1 = w5.modScope target fun x => { x with nodes := x.nodes ++ [n] })
    (fun _ _ _ => nofun) (fun _ _ _ _ _ _ _ _ _ _ _ => nofun)
    fun target params results n w w5 hreg hvs _ => ⟨target, params, results, n, w, w5, hreg, hvs, rfl⟩

/-- **the constructor of an accepted Provide is registered in the scope it was provided to, or in the root if it was
    provided with `Export(true)`**, whatever scope the call was made on; its dependencies are resolved from the scope of
    the call (`origS`) -/
theorem apiProvide_ok_home {st : St} (hg : GT st) (hb : OB st) (ctx : Ctx) (fn : Fn) (i s : Nat) (o : ProvideOpts)
    (hok : (apiProvide ctx fn st i s o).2.v = .ok) :
    (apiProvide ctx fn st i s o).1.ctors.length = st.ctors.length + 1 ∧
    ((apiProvide ctx fn st i s o).1.ctor st.ctors.length).s = (if o.export_ then St.root else s) ∧
    ((apiProvide ctx fn st i s o).1.ctor st.ctors.length).fn = fn := by
  obtain ⟨target, params, results, n, w, w5, hreg, hvs, hfin⟩ := apiProvide_ok_shape ctx fn st i s o hok
  obtain ⟨_, _, htg, _, _, hn, hcl, hs, hfn, _⟩ := provideRegister_inv hg hb ctx fn i s o target params results n w hreg
  have hgs := graphSame_verifyScopes ctx.cfg (st.subscopes target) w
  rw [hvs] at hgs
  simp only at hgs
  rw [hfin]
  have e : ∀ j, (w5.modScope target fun x => { x with nodes := x.nodes ++ [n] }).ctor j = w.ctor j := by
    intro j; show w5.ctors.getD j default = w.ctors.getD j default; rw [← hgs.1]
  subst hn
  refine ⟨by show w5.ctors.length = _; rw [← hgs.1]; exact hcl, by rw [e, hs, htg], by rw [e, hfn]⟩

end Dig
