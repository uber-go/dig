import DigModel.Engine
/-
  What the look-ups along the path to the root return (param.go: buildWithDecorators,
  getDecoratedValue, the provider loop of paramSingle.Build), stated declaratively: each is
  `List.findSome?` of what one scope answers.
-/
namespace Dig

/-! ### decorators -/

def decoAt (st : St) (k : Key) (s : Nat) : Option (Nat × Nat) :=
  match aget (st.scope s).decorators k with
  | some d => if (st.deco d).state == .onStack then none else some (d, s)
  | none => none

theorem findDeco_eq (st : St) (k : Key) (anc : List Nat) : findDeco st k anc = anc.findSome? (decoAt st k) := by
  induction anc with
  | nil => rfl
  | cons s rest ih =>
    simp only [findDeco, List.findSome?_cons, decoAt, ih]
    cases aget (st.scope s).decorators k with
    | none => rfl
    | some d => simp only; split <;> rfl

theorem decoAt_eq_some {st : St} {k : Key} {s d ds : Nat} :
    decoAt st k s = some (d, ds) ↔ s = ds ∧ aget (st.scope s).decorators k = some d ∧ (st.deco d).state ≠ .onStack := by
  unfold decoAt
  cases aget (st.scope s).decorators k with
  | none => simp
  | some d' =>
    by_cases h : (st.deco d').state = .onStack
    · simp only [h, beq_self_eq_true, if_true, Option.some.injEq]
      exact ⟨nofun, fun ⟨_, e, hn⟩ => absurd (e ▸ h) hn⟩
    · have : ((st.deco d').state == DecoState.onStack) = false := by simpa using h
      simp only [this, Bool.false_eq_true, if_false, Option.some.injEq, Prod.mk.injEq]
      exact ⟨fun ⟨e1, e2⟩ => ⟨e2, e1, e1 ▸ h⟩, fun ⟨e2, e1, _⟩ => ⟨e1, e2⟩⟩

theorem decoAt_eq_none {st : St} {k : Key} {s : Nat} :
    decoAt st k s = none ↔ ∀ d, aget (st.scope s).decorators k = some d → (st.deco d).state = .onStack := by
  unfold decoAt
  cases aget (st.scope s).decorators k with
  | none => simp
  | some d' => simp

theorem findDeco_spec (st : St) (k : Key) (anc : List Nat) (d ds : Nat) (h : findDeco st k anc = some (d, ds)) :
    ∃ pre post, anc = pre ++ ds :: post ∧
      aget (st.scope ds).decorators k = some d ∧ (st.deco d).state ≠ .onStack ∧
      ∀ s ∈ pre, ∀ d', aget (st.scope s).decorators k = some d' → (st.deco d').state = .onStack := by
  rw [findDeco_eq] at h
  obtain ⟨pre, s, post, e, hs, hpre⟩ := List.findSome?_eq_some_iff.1 h
  obtain ⟨rfl, h1, h2⟩ := decoAt_eq_some.1 hs
  exact ⟨pre, post, e, h1, h2, fun s' hs' => decoAt_eq_none.1 (hpre s' hs')⟩

theorem findDeco_none (st : St) (k : Key) (anc : List Nat) (h : findDeco st k anc = none) :
    ∀ s ∈ anc, ∀ d, aget (st.scope s).decorators k = some d → (st.deco d).state = .onStack := by
  rw [findDeco_eq] at h
  exact fun s hs => decoAt_eq_none.1 (List.findSome?_eq_none_iff.1 h s hs)

/-! ### decorated values -/

theorem findDecoratedValue_eq (st : St) (k : Key) (anc : List Nat) :
    findDecoratedValue st k anc = anc.findSome? fun s => aget (st.scope s).decoratedValues k := by
  induction anc with
  | nil => rfl
  | cons s rest ih =>
    simp only [findDecoratedValue, List.findSome?_cons, ih]
    cases aget (st.scope s).decoratedValues k <;> rfl

theorem findDecoratedValue_none (st : St) (k : Key) (anc : List Nat) (h : findDecoratedValue st k anc = none) :
    ∀ s ∈ anc, aget (st.scope s).decoratedValues k = none := by
  rw [findDecoratedValue_eq] at h
  exact List.findSome?_eq_none_iff.1 h

theorem findDecoratedValue_some (st : St) (k : Key) (anc : List Nat) (v : Val) (h : findDecoratedValue st k anc = some v) :
    ∃ pre s post, anc = pre ++ s :: post ∧ aget (st.scope s).decoratedValues k = some v ∧
      ∀ s' ∈ pre, aget (st.scope s').decoratedValues k = none := by
  rw [findDecoratedValue_eq] at h
  exact List.findSome?_eq_some_iff.1 h

/-! ### providers -/

/-- what the provider search sees in scope `s`: a cached value wins over the providers of the same scope -/
def provAt (st : St) (k : Key) (s : Nat) : Option ProvLookup :=
  match aget (st.scope s).values k with
  | some v => some (.value v)
  | none =>
    match agetL (st.scope s).providers k with
    | [] => none
    | ns => some (.providers s ns)

theorem findProviders_eq (st : St) (k : Key) (anc : List Nat) :
    findProviders st k anc = ((anc.findSome? (provAt st k)).getD .none) := by
  induction anc with
  | nil => rfl
  | cons s rest ih =>
    simp only [findProviders, List.findSome?_cons, provAt, ih]
    cases aget (st.scope s).values k with
    | some v => rfl
    | none => simp only; cases agetL (st.scope s).providers k <;> rfl

theorem provAt_eq_none {st : St} {k : Key} {s : Nat} :
    provAt st k s = none ↔ aget (st.scope s).values k = none ∧ agetL (st.scope s).providers k = [] := by
  unfold provAt
  cases aget (st.scope s).values k with
  | some v => simp
  | none => cases agetL (st.scope s).providers k <;> simp

theorem provAt_eq_value {st : St} {k : Key} {s : Nat} {v : Val} :
    provAt st k s = some (.value v) ↔ aget (st.scope s).values k = some v := by
  unfold provAt
  cases aget (st.scope s).values k with
  | some v => simp
  | none => cases agetL (st.scope s).providers k <;> simp

theorem provAt_eq_providers {st : St} {k : Key} {s pc : Nat} {ns : List Nat} :
    provAt st k s = some (.providers pc ns) ↔
      s = pc ∧ ns = agetL (st.scope s).providers k ∧ ns ≠ [] ∧ aget (st.scope s).values k = none := by
  unfold provAt
  cases aget (st.scope s).values k with
  | some v => simp
  | none =>
    cases h : agetL (st.scope s).providers k with
    | nil => simp only [reduceCtorEq, false_iff]; rintro ⟨_, rfl, hn, _⟩; exact hn rfl
    | cons a l =>
      simp only [Option.some.injEq, ProvLookup.providers.injEq, and_true]
      exact ⟨fun ⟨e1, e2⟩ => ⟨e1, e2.symm, e2 ▸ List.cons_ne_nil _ _⟩, fun ⟨e1, e2, _⟩ => ⟨e1, e2.symm⟩⟩

theorem provAt_ne_none {st : St} {k : Key} {s : Nat} : provAt st k s ≠ some .none := by
  unfold provAt
  split
  · nofun
  · split <;> nofun

theorem findProviders_value (st : St) (k : Key) (anc : List Nat) (v : Val) (h : findProviders st k anc = .value v) :
    ∃ pre s post, anc = pre ++ s :: post ∧ aget (st.scope s).values k = some v ∧
      ∀ s' ∈ pre, aget (st.scope s').values k = none ∧ agetL (st.scope s').providers k = [] := by
  rw [findProviders_eq] at h
  cases hf : anc.findSome? (provAt st k) with
  | none => rw [hf] at h; cases h
  | some r =>
    rw [hf] at h; cases h
    obtain ⟨pre, s, post, e, hs, hpre⟩ := List.findSome?_eq_some_iff.1 hf
    exact ⟨pre, s, post, e, provAt_eq_value.1 hs, fun s' hs' => provAt_eq_none.1 (hpre s' hs')⟩

theorem findProviders_provs (st : St) (k : Key) (anc : List Nat) (pc : Nat) (ns : List Nat)
    (h : findProviders st k anc = .providers pc ns) :
    ∃ pre post, anc = pre ++ pc :: post ∧ ns = agetL (st.scope pc).providers k ∧ ns ≠ [] ∧
      aget (st.scope pc).values k = none ∧
      ∀ s' ∈ pre, aget (st.scope s').values k = none ∧ agetL (st.scope s').providers k = [] := by
  rw [findProviders_eq] at h
  cases hf : anc.findSome? (provAt st k) with
  | none => rw [hf] at h; cases h
  | some r =>
    rw [hf] at h; cases h
    obtain ⟨pre, s, post, e, hs, hpre⟩ := List.findSome?_eq_some_iff.1 hf
    obtain ⟨rfl, h1, h2, h3⟩ := provAt_eq_providers.1 hs
    exact ⟨pre, post, e, h1, h2, h3, fun s' hs' => provAt_eq_none.1 (hpre s' hs')⟩

theorem findProviders_none (st : St) (k : Key) (anc : List Nat) (h : findProviders st k anc = .none) :
    ∀ s ∈ anc, aget (st.scope s).values k = none ∧ agetL (st.scope s).providers k = [] := by
  rw [findProviders_eq] at h
  cases hf : anc.findSome? (provAt st k) with
  | none => exact fun s hs => provAt_eq_none.1 (List.findSome?_eq_none_iff.1 hf s hs)
  | some r =>
    obtain ⟨_, s, _, _, hs, _⟩ := List.findSome?_eq_some_iff.1 hf
    rw [hf] at h; cases h
    exact absurd hs provAt_ne_none

end Dig
