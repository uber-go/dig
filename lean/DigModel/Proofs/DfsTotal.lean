import DigModel.Proofs.Dfs
import Batteries.Data.List.Perm
/-
  The search never runs out of fuel on a graph whose successors are in range (`isAcyclic_total`): the nodes on the path
  are distinct and below `n`, so there are at most `n` of them (pigeonhole, by `List.subperm_of_subset` of Batteries'
  `List.Perm` against `List.range n`), and fuel plus path length stays above `n`.  With `isAcyclic_sound` this makes the
  check complete (`isAcyclic_complete`).
-/

namespace Dfs

theorem nodup_length_le (n : Nat) (l : List Nat) (hd : l.Nodup) (hl : ∀ x ∈ l, x < n) : l.length ≤ n := by
  have hsub : l ⊆ List.range n := fun x hx => List.mem_range.mpr (hl x hx)
  have := (List.subperm_of_subset hd hsub).length_le
  simpa using this

theorem dfs_mono (g : Nat → List Nat) :
    ∀ fuel u vis path vis', dfs g fuel u vis path = .ok vis' → (∀ x ∈ vis, x ∈ vis') ∧ u ∈ vis' := by
  intro fuel
  induction fuel with
  | zero => intro u vis path vis' h; cases h
  | succ fuel ih =>
    intro u vis path vis' h
    rw [dfs] at h
    split at h
    · cases h; exact ⟨fun _ hx => hx, ‹_›⟩
    · obtain ⟨h1, _⟩ := loop_ok g _ _ (fun _ => True)
        (fun v s s' _ _ e => ⟨(ih v s _ s' e).1, (ih v s _ s' e).2, trivial⟩) (g u) (u :: vis) vis' trivial h
      exact ⟨fun x hx => h1 x (List.mem_cons_of_mem _ hx), h1 u List.mem_cons_self⟩

theorem loop_total (g : Nat → List Nat) (rec : Nat → List Nat → R) (path : List Nat) (I : List Nat → Prop) :
    ∀ (vs : List Nat) s0, I s0 →
      (∀ v ∈ vs, ∀ s, v ∉ s → I s → rec v s ≠ .oof ∧ ∀ s', rec v s = .ok s' → I s') →
      vs.foldl (step g rec path) (.ok s0) ≠ .oof := by
  intro vs
  induction vs with
  | nil => exact fun _ _ _ h => nomatch h
  | cons v vs ih =>
    intro s0 h0 hrec h
    have htl := fun w hw => hrec w (List.mem_cons_of_mem _ hw)
    rcases loop_cons h with ⟨hv, s1, e, h'⟩ | ⟨hv, e, _⟩ | ⟨_, _, e⟩ | ⟨_, _, h'⟩
    · exact ih s1 ((hrec v List.mem_cons_self s0 hv h0).2 s1 e) htl h'
    · exact (hrec v List.mem_cons_self s0 hv h0).1 e
    · cases e
    · exact ih s0 h0 htl h'

theorem dfs_total (g : Nat → List Nat) (n : Nat) (hg : ∀ x, x < n → ∀ y ∈ g x, y < n) :
    ∀ fuel u vis path, u < n → path.Nodup → (∀ x ∈ path, x < n) → (∀ x ∈ path, x ∈ vis) →
      n + 1 ≤ fuel + path.length → dfs g fuel u vis path ≠ .oof := by
  intro fuel
  induction fuel with
  | zero =>
    intro u vis path _ hd hl _ hf
    have := nodup_length_le n path hd hl
    omega
  | succ fuel ih =>
    intro u vis path hu hd hl hsub hf
    rw [dfs]
    split
    · exact fun h => nomatch h
    · rename_i huv
      have hd' : (path ++ [u]).Nodup := by
        rw [List.nodup_append]
        exact ⟨hd, by simp, fun a ha b hb hab => huv (hsub u (List.mem_singleton.mp hb ▸ hab ▸ ha))⟩
      have hl' : ∀ x ∈ path ++ [u], x < n := by
        intro x hx
        rcases List.mem_append.mp hx with hx | hx
        · exact hl x hx
        · exact List.mem_singleton.mp hx ▸ hu
      refine loop_total g _ _ (fun s => ∀ x ∈ path ++ [u], x ∈ s) (g u) (u :: vis) ?_ ?_
      · intro x hx
        rcases List.mem_append.mp hx with hx | hx
        · exact List.mem_cons_of_mem _ (hsub x hx)
        · exact List.mem_singleton.mp hx ▸ List.mem_cons_self
      · intro v hv s _ hs
        exact ⟨ih v s (path ++ [u]) (hg u hu v hv) hd' hl' hs (by rw [List.length_append, List.length_singleton]; omega),
          fun s' e x hx => (dfs_mono g fuel v s _ s' e).1 x (hs x hx)⟩

theorem isAcyclic_total (g : Nat → List Nat) (n : Nat) (hg : ∀ x, x < n → ∀ y ∈ g x, y < n) :
    isAcyclic g n ≠ .oof := by
  rw [isAcyclic_eq]
  exact loop_total g _ [] (fun _ => True) (List.range n) [] trivial fun v hv s _ _ =>
    ⟨dfs_total g n hg (n + 1) v s [] (List.mem_range.mp hv) List.nodup_nil (by simp) (by simp) (by simp),
      fun _ _ => trivial⟩

theorem isAcyclic_complete (g : Nat → List Nat) (n : Nat) (hg : ∀ x, x < n → ∀ y ∈ g x, y < n)
    (a : Nat) (l : List Nat) (hl : l ≠ []) (hn : ∀ x ∈ a :: l, x < n) (hw : IsWalk g (a :: l))
    (hclosed : (a :: l).getLast (by simp) = a) : ∃ p, isAcyclic g n = .cycle p ∧ IsClosedWalk g p := by
  cases h : isAcyclic g n with
  | ok vis => exact absurd hclosed (isAcyclic_sound g n vis h a l hl hn hw)
  | oof => exact absurd h (isAcyclic_total g n hg)
  | cycle p => exact ⟨p, rfl, isAcyclic_cycle g n p h⟩

#print axioms isAcyclic_complete
example : isAcyclic (fun | 0 => [1] | 1 => [2] | 2 => [0] | _ => []) 3 = .cycle [0, 1, 2, 0] := by decide
example : isAcyclic (fun | 0 => [1, 2] | 1 => [2] | _ => []) 3 = .ok [2, 1, 0] := by decide
end Dfs
