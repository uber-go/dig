import DigModel.Proofs.VSetApi
import DigModel.Proofs.AcycInv
/-
  The `isVerifiedAcyclic` flags mean what they say, with or without DeferAcyclicVerification: in every reachable
  container a scope flagged as verified has an acyclic graph (`VA`).  Provide clears the flag of the target scope and
  of every descendant — the only scopes whose graph it can change — and a parse only adds nodes without incoming
  edges.
-/
namespace Dig

def flagsOf (st : St) : Nat → Bool := fun j => (st.scope j).verified

theorem vset_self (st : St) : vset (flagsOf st) st = st := (eqV_vset (eqV_refl st)).symm

theorem vset_verified (g : Nat → Bool) (st : St) (j : Nat) (hj : j < st.scopes.length) : ((vset g st).scope j).verified = g j := by
  rw [vset_scope, if_pos hj]

theorem flags_of_comm {F : St → St} (st : St) (hF : F (vset (flagsOf st) st) = vset (flagsOf st) (F st)) (j : Nat)
    (hj : j < (F st).scopes.length) : ((F st).scope j).verified = (st.scope j).verified := by
  rw [vset_self] at hF
  have := vset_verified (flagsOf st) (F st) j hj
  rw [← hF] at this
  exact this

def VA (st : St) : Prop := ∀ s, s < st.scopes.length → (st.scope s).verified = true → checkAcyclic st s = .acyclic

theorem VA.of_ea {st : St} (h : EA st) : VA st := fun s hs _ => h s hs

theorem VA.init : VA ({} : St) := VA.of_ea EA.init

-- `VA st` unfolds to `AC (· = true) st`
theorem VA.parseParams {st : St} (h : VA st) (hg : GT st) (hp : PG st) (ho : OB st) (env : TyEnv) (sc : Nat) (fn : Fn) :
    VA (Dig.parseParams env st sc fn).2 :=
  AC.parseParams (g := (· = true)) h hg hp ho env sc fn

theorem VA.resetLog {st : St} (h : VA st) : VA { st with log := [] } :=
  AC.resetLog (g := (· = true)) h

theorem VA.decorate {st : St} (h : VA st) (hg : GT st) (hp : PG st) (ho : OB st) (ctx : Ctx) (fn : Fn) (i s : Nat) (cb info : Bool) :
    VA (apiDecorate ctx fn st i s cb info).1 :=
  AC.decorate (g := (· = true)) h hg hp ho ctx fn i s cb info

theorem VA.invoke {st : St} (h : VA st) (hg : GT st) (hp : PG st) (ho : OB st) (ctx : Ctx) (fn : Fn) (s : Nat)
    (info : Bool) : VA (apiInvoke ctx fn st s info).1 :=
  AC.invoke (g := (· = true)) h hg hp ho ctx fn s info

theorem verified_lt {st : St} {j : Nat} (h : (st.scope j).verified = true) : j < st.scopes.length := by
  apply Nat.lt_of_not_le
  intro hj
  rw [scope_ge_len st j hj] at h
  cases h

/-- with DeferAcyclicVerification the loop clears the flag of every scope it visits and sets none -/
theorem verifyScopes_defer_flags (cfg : Cfg) (hd : cfg.deferAcyclic = true) : ∀ (l : List Nat) (w : St) (j : Nat),
    ((Dig.verifyScopes cfg l w).2.scope j).verified = true → (w.scope j).verified = true ∧ j ∉ l := by
  intro l
  induction l with
  | nil => exact fun w j hv => ⟨hv, List.not_mem_nil⟩
  | cons sc rest ih =>
    intro w j hv
    simp only [Dig.verifyScopes, hd, if_true] at hv
    obtain ⟨h1, h2⟩ := ih _ j hv
    rw [scope_modScope] at h1
    split at h1
    · cases h1
    · rename_i hc
      exact ⟨h1, fun hm => (List.mem_cons.1 hm).elim (fun e => hc ⟨e.symm, verified_lt h1⟩) h2⟩

theorem provideRegister_flags (ctx : Ctx) (fn : Fn) (st : St) (i s : Nat) (o : ProvideOpts) :
    match provideRegister ctx fn st i s o with
    | .error r => ∀ j, (r.1.scope j).verified = true → (st.scope j).verified = true
    | .ok (_, _, _, _, w) => ∀ j, (w.scope j).verified = true → (st.scope j).verified = true := by
  have h := flags_of_comm (F := fun x => match provideRegister ctx fn x i s o with
      | .error r => r.1
      | .ok (_, _, _, _, w) => w) st (by
    simp only [vset_provideRegister]
    cases provideRegister ctx fn st i s o <;> rfl)
  cases hreg : provideRegister ctx fn st i s o with
  | error r =>
    simp only [hreg] at h
    exact fun j hv => (h j (verified_lt hv)).symm.trans hv
  | ok t =>
    simp only [hreg] at h
    exact fun j hv => (h j (verified_lt hv)).symm.trans hv

theorem VA.provide {st : St} (h : VA st) (hg : GT st) (hp : PG st) (ho : OB st) (ctx : Ctx) (hd : ctx.cfg.deferAcyclic = true)
    (fn : Fn) (i s : Nat) (o : ProvideOpts) : VA (apiProvide ctx fn st i s o).1 := by
  have hfl := provideRegister_flags ctx fn st i s o
  rw [apiProvide_eq]
  unfold apiProvide'
  cases hreg : provideRegister ctx fn st i s o with
  | error r =>
    rw [hreg] at hfl
    exact AC.graphSame (g := (· = true)) h (graphSame_of_eqButVerified (provideRegister_error hreg).1) hfl
  | ok t =>
    obtain ⟨target, params, results, n, w⟩ := t
    obtain ⟨hgw, hbw, htg, hlen, hsub, hn, hcl, hs, hfn, hw⟩ := provideRegister_inv hg ho ctx fn i s o target params results n w hreg
    rw [hreg] at hfl
    simp only at hfl ⊢
    unfold provideVerify
    have hw5 := work_verifyScopes (target := target) ctx.cfg (st.subscopes target) w hw
    have hok := verifyScopes_defer_ok ctx.cfg hd (st.subscopes target) w
    have hflg := verifyScopes_defer_flags ctx.cfg hd (st.subscopes target) w
    cases hvs : Dig.verifyScopes ctx.cfg (st.subscopes target) w with
    | mk r5 w5 =>
      rw [hvs] at hw5 hok hflg
      simp only at hw5 hok hflg
      subst hok
      simp only
      have hgs : GraphSame w5 (w5.modScope target fun x => { x with nodes := x.nodes ++ [n] }) :=
        graphSame_modScope _ target _ (fun _ => ⟨rfl, rfl, rfl⟩)
      intro j hj hv
      rw [← hgs.checkAcyclic j]
      rw [scope_modScope_keep (·.verified)] at hv
      case hf => exact fun _ => rfl
      obtain ⟨hvw, hnin⟩ := hflg j hv
      have hj' : j < st.scopes.length := by rw [← hlen]; exact verified_lt hvw
      rw [(localSame_work hw5 hg hp j hj' hnin).checkAcyclic]
      exact h j hj' (hfl j hvw)

/-- the invariants of the graph theorems plus "flagged means acyclic"; without DeferAcyclicVerification every view is
    acyclic anyway -/
structure VInv (cfg : Cfg) (st : St) : Prop where
  gt : GT st
  pg : PG st
  ob : OB st
  va : VA st
  ea : cfg.deferAcyclic = false → EA st

theorem VInv.init (cfg : Cfg) : VInv cfg ({} : St) := ⟨GT.init, PG.init, OB.init, VA.init, fun _ => EA.init⟩

theorem VInv.step {ctx : Ctx} {st : St} (h : VInv ctx.cfg st) (fns : List Fn) (i : Nat) (op : Op) :
    VInv ctx.cfg (Dig.step ctx fns st i op).1 := by
  cases hd : ctx.cfg.deferAcyclic with
  | false =>
    have he := (EagerInv.mk h.gt h.pg h.ob (h.ea hd)).step ctx hd fns i op
    exact ⟨he.gt, he.pg, he.ob, VA.of_ea he.ea, fun _ => he.ea⟩
  | true =>
    obtain ⟨⟨⟨h1, h2⟩, h3⟩, h4⟩ := step_inv (AC.stepInv (g := (· = true)) ctx fns (fun _ hf => nomatch hf)
      fun _ fn i s o hg hp ho hv => VA.provide hv hg hp ho ctx hd fn i s o) ⟨⟨⟨h.gt, h.pg⟩, h.ob⟩, h.va⟩ i op
    exact ⟨h1, h2, h3, h4, fun hc => by rw [hd] at hc; cases hc⟩

theorem VInv.runOps (ctx : Ctx) (fns : List Fn) : ∀ (ops : List Op) (i : Nat) (st : St)
    (acc : List OpRes), VInv ctx.cfg st → VInv ctx.cfg (Dig.runOps ctx fns ops i st acc).1 :=
  fun ops i st acc h =>
    (runOps_inv_all (I := VInv ctx.cfg) (P := fun _ => True) (fun _ i op h => ⟨h.step fns i op, trivial⟩) ops i st acc h
      fun _ _ => trivial).1

theorem verified_means_acyclic (p : Program) (s : Nat) (hv : ((runProgram p).1.scope s).verified = true) :
    checkAcyclic (runProgram p).1 s = .acyclic :=
  (VInv.runOps p.ctx p.fns p.ops 0 {} [] (VInv.init _)).va s (verified_lt hv) hv

end Dig
