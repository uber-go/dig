import DigModel.Proofs.AvailApi
import DigModel.Proofs.DeferSim
/-
  `apiInvoke_real` and `apiInvoke_available` for whole programs: the Invoke that follows any program.
-/
namespace Dig

theorem sameView_resetLog (st : St) : SameView { st with log := [] } st :=
  ⟨fun _ => rfl, fun _ => ⟨rfl, rfl⟩, fun _ => ⟨rfl, rfl⟩, fun _ => ⟨rfl, rfl⟩⟩

theorem step_invoke_err (ctx : Ctx) (fns : List Fn) (st : St) (i s f : Nat) (info : Bool) (fn : Fn)
    (hf : fnOf fns f = some fn) (e : DErr) (h : (step ctx fns st i (.invoke s f info)).2.v = .err e) :
    s < st.scopes.length := by
  simp only [step, hf] at h
  split at h
  · assumption
  · cases h

theorem program_invoke_real (p : Program) (i s f : Nat) (info : Bool) (fn : Fn) (params : List Param) (w0 : St)
    (hf : fnOf p.fns f = some fn) (hnf : fn.nonfunc = none)
    (hpp : parseParams p.types { (runProgram p).1 with log := [] } s fn = (.ok params, w0)) (e : DErr)
    (hv : (step p.ctx p.fns (runProgram p).1 i (.invoke s f info)).2.v = .err e) :
    (∃ path, e = .invalid (.cycle path s) ∧ ∃ q, checkAcyclic w0 s = .cycle q) ∨
    RealRoot (runProgram p).1 (InvokeClosure (runProgram p).1 s params) (InvokeReq s params) e.rootCause := by
  have hidle : ∀ n, ((runProgram p).1.ctor n).onStack = false := (program_safeInv p).nb.h.ctorIdle
  have hs := step_invoke_err p.ctx p.fns _ i s f info fn hf e hv
  rw [step_invoke_eq p.ctx p.fns _ i s f info fn hf hs] at hv
  generalize (runProgram p).1 = st at hidle hpp hv ⊢
  rcases apiInvoke_real p.ctx fn { st with log := [] } s info hnf hidle params w0 hpp e hv with h | h
  · exact Or.inl h
  · right
    exact h.view (sameView_resetLog st) fun _ => InvokeClosure.view (sameView_resetLog st)

theorem program_invoke_available (p : Program) (hok : AllOk p.ctx) (i s f : Nat) (info : Bool) (fn : Fn)
    (params : List Param) (w0 : St) (hf : fnOf p.fns f = some fn) (hnf : fn.nonfunc = none)
    (hs : s < (runProgram p).1.scopes.length)
    (hpp : parseParams p.types { (runProgram p).1 with log := [] } s fn = (.ok params, w0))
    (havail : ∀ c k, (InvokeReq s params c k ∨ ∃ x, InvokeClosure (runProgram p).1 s params x ∧ ReqNode (runProgram p).1 x c k) →
      (runProgram p).1.allProviders c k ≠ [])
    (hnocyc : ∀ x, InvokeClosure (runProgram p).1 s params x → ¬ Below (runProgram p).1 x x) :
    (step p.ctx p.fns (runProgram p).1 i (.invoke s f info)).2.v = .ok ∨
    ∃ path, (step p.ctx p.fns (runProgram p).1 i (.invoke s f info)).2.v = .err (.invalid (.cycle path s)) ∧
      ∃ q, checkAcyclic w0 s = .cycle q := by
  have hsafe := program_safeInv p
  have hidle : ∀ n, ((runProgram p).1.ctor n).onStack = false := hsafe.nb.h.ctorIdle
  have hnp := (hsafe.step p.ctx p.fns i (.invoke s f info)).2
  have hnf' := step_nofuel hsafe.nb.h p.ctx p.fns i (.invoke s f info)
  rw [step_invoke_eq p.ctx p.fns _ i s f info fn hf hs] at hnp hnf' ⊢
  generalize (runProgram p).1 = st at hidle hpp havail hnocyc hnp hnf' ⊢
  have hview := sameView_resetLog st
  have h1 : ∀ c k, (InvokeReq s params c k ∨ ∃ x, InvokeClosure { st with log := [] } s params x ∧
      ReqNode { st with log := [] } x c k) → ({ st with log := [] } : St).allProviders c k ≠ [] := by
    intro c k hck
    rw [allProviders_view hview]
    refine havail c k ?_
    rcases hck with h | ⟨x, hx, hq⟩
    · exact Or.inl h
    · exact Or.inr ⟨x, hx.view hview, reqNode_view hview hq⟩
  have h2 : ∀ x, InvokeClosure { st with log := [] } s params x → ¬ Below { st with log := [] } x x := by
    intro x hx hb
    exact hnocyc x (hx.view hview) (below_view hview hb)
  rcases apiInvoke_available p.ctx hok fn { st with log := [] } s info hnf rfl hidle params w0 hpp h1 h2 with h | h | h | h
  · exact Or.inl h
  · exact absurd h hnp
  · exact absurd h hnf'
  · exact Or.inr h

theorem program_invoke_available_eager (p : Program) (hok : AllOk p.ctx) (hd : p.cfg.deferAcyclic = false)
    (i s f : Nat) (info : Bool) (fn : Fn)
    (params : List Param) (w0 : St) (hf : fnOf p.fns f = some fn) (hnf : fn.nonfunc = none)
    (hs : s < (runProgram p).1.scopes.length)
    (hpp : parseParams p.types { (runProgram p).1 with log := [] } s fn = (.ok params, w0))
    (havail : ∀ c k, (InvokeReq s params c k ∨ ∃ x, InvokeClosure (runProgram p).1 s params x ∧ ReqNode (runProgram p).1 x c k) →
      (runProgram p).1.allProviders c k ≠ [])
    (hnocyc : ∀ x, InvokeClosure (runProgram p).1 s params x → ¬ Below (runProgram p).1 x x) :
    (step p.ctx p.fns (runProgram p).1 i (.invoke s f info)).2.v = .ok := by
  rcases program_invoke_available p hok i s f info fn params w0 hf hnf hs hpp havail hnocyc with h | ⟨path, _, q, hq⟩
  · exact h
  · exfalso
    have he : EagerInv (runProgram p).1 := EagerInv.runOps p.ctx hd p.fns p.ops 0 {} [] EagerInv.init
    have he0 := he.resetLog
    have hea := he0.ea.parseParams he0.gt he0.pg he0.ob p.types s fn
    rw [hpp] at hea
    have hl : w0.scopes.length = (runProgram p).1.scopes.length := by
      have := (grow_parseParams p.types { (runProgram p).1 with log := [] } s fn).len
      rw [hpp] at this
      exact this
    rw [hea s (by rw [hl]; exact hs)] at hq
    cases hq

end Dig
