import DigModel.Proofs.DecoHide
import DigModel.Props.C01
import DigModel.Props.C02
import DigModel.Proofs.Parse
import DigModel.Proofs.Just2Api
/-
  C12 — Decoration: every consumer below a decorator sees its replacement.

  * `C12_consumer` (= C01_decorator_wins): if a scope on the path to the root has a decorator for the key that
    is not itself running, the nearest such decorator is called and what the consumer receives is that
    decorator's output as stored in the decorating scope — never the undecorated value, cached or not;
  * `C12_self_skipped`: a look-up made while a decorator is running skips that decorator (so the decorator
    itself receives what a consumer would have received without it) — by `findDeco_spec`, all decorators
    nearer than the chosen one are on the stack;
  * `C12_once`: a decorator has at most one successful execution per resolver call, none once it has run
    (C02_once), and a decorator that ran is a no-op (C02_deco_cached);
  * `C12_one`: an accepted Decorate never replaces an existing decorator of the scope: every key it
    registers was undecorated in that scope before; a Decorate that is rejected changes nothing at all
    (the state afterwards equals the state before);
  * `C12_local`: `paramSingle.Build` consults decorators only in scopes on the path from the requesting scope
    to the root (`findDeco` ranges over `ancestors`), so scopes outside a decorator's subtree never see it.
  * `C12_decorated_value_is_decorator_output` / `C12_decorated_group_is_decorator_output` (whole programs, invariant
    `Just2`): in every reachable container a decorated single value (a decorated group) stored in scope `S` under
    key `k` is exactly what a successful execution of a decorator registered in `S` returned in the result that
    declares `k` — so with `C12_consumer` what a consumer below receives is that decorator's output.
  * `C12_running_decorator_is_invisible` (full strength, any container, any configuration): while decorator `d` is
    running (on the stack — that is when its own arguments are built), every resolver computation — building a list of
    parameters, a single value, a value group, calling a constructor or another decorator — gives the same result and
    the same executions, and changes the container in the same way, as in the container whose decorator tables do not
    mention `d` at all (`tablesWithout d`: what every table answers with the entries for `d` taken out).  So what a
    decorator receives for the key it decorates is exactly what a consumer in its scope would receive had the
    decorator never been registered: the next outer decorator's output, otherwise the provided value (`commd_engine`).
-/
namespace Dig.C12

theorem C12_consumer (ctx : Ctx) (fuel : Nat) (k : Key) (opt : Bool) (c : Nat) (st : St) (d ds : Nat)
    (h : findDeco st k (st.ancestors c) = some (d, ds)) (v : Val) (st' : St)
    (hb : buildSingle ctx (fuel + 1) k opt c st = (.ok v, st')) :
    st' = (callDeco ctx fuel d ds st).2 ∧ aget (st'.scope ds).decoratedValues k = some v :=
  (C01.C01_decorator_wins ctx fuel k opt c st d ds h).1 v st' hb

theorem C12_self_skipped (st : St) (k : Key) (c d ds : Nat) (h : findDeco st k (st.ancestors c) = some (d, ds)) :
    ∃ pre post, st.ancestors c = pre ++ ds :: post ∧ (st.deco d).state ≠ .onStack ∧
      ∀ s ∈ pre, ∀ d', aget (st.scope s).decorators k = some d' → (st.deco d').state = .onStack := by
  obtain ⟨pre, post, e, _, h2, h3⟩ := findDeco_spec st k _ d ds h
  exact ⟨pre, post, e, h2, h3⟩

theorem C12_local (st : St) (k : Key) (c d ds : Nat) (h : findDeco st k (st.ancestors c) = some (d, ds)) :
    ds ∈ st.ancestors c := by
  obtain ⟨_, _, e, _⟩ := findDeco_spec st k _ d ds h
  exact mem_of_eq_append e

theorem C12_once (ctx : Ctx) (L L' fuel : Nat) (ps : List Param) (c : Nat) (st : St) (hv : VL L L' st) :
    ∃ l, (buildList ctx fuel ps c st).2.hist = st.hist ++ l ∧
      ∀ d, okExits (.deco d) l ≤ 1 ∧ ((st.deco d).state = .called → okExits (.deco d) l = 0) ∧
           ((st.deco d).state = .onStack → okExits (.deco d) l = 0) := by
  obtain ⟨l, h1, _, h3⟩ := C02.C02_once ctx L L' fuel ps c st hv
  exact ⟨l, h1, fun d => ⟨(h3 d).1, (h3 d).2.1, (h3 d).2.2.1⟩⟩

theorem C12_one (ctx : Ctx) (fn : Fn) (st : St) (i s : Nat) (cb info : Bool) :
    (((apiDecorate ctx fn st i s cb info).2.v matches .ok) →
      ∀ k, aget (((apiDecorate ctx fn st i s cb info).1).scope s).decorators k ≠ aget (st.scope s).decorators k →
        aget (st.scope s).decorators k = none) ∧
    ((¬ ((apiDecorate ctx fn st i s cb info).2.v matches .ok)) → (apiDecorate ctx fn st i s cb info).1 = st) := by
  refine apiDecorate_cases ctx fn st i s cb info
    (P := fun x => ((x.2.v matches .ok) →
        ∀ k, aget (x.1.scope s).decorators k ≠ aget (st.scope s).decorators k → aget (st.scope s).decorators k = none) ∧
      ((¬ (x.2.v matches .ok)) → x.1 = st)) (fun _ => ⟨fun h => by simp at h, fun _ => rfl⟩) ?_
  intro params results keys w _ hp _ _ hcond
  refine ⟨fun _ k hk => ?_, fun h => by simp at h⟩
  -- accepted: none of the keys was decorated in `s`, and only their entries change
  have hwd : (w.scope s).decorators = (st.scope s).decorators := (hp.scope s).decorators.symm
  by_cases hmem : k ∈ keys
  · rw [← hwd]
    exact Option.not_isSome_iff_eq_none.1 (List.any_eq_false.1 (Bool.or_eq_false_iff.1 hcond).2 k hmem)
  · exfalso; apply hk
    rw [← hwd]
    show aget ((St.modScope _ s _).scope s).decorators k = _
    rw [scope_modScope]
    by_cases hc : s = s ∧ s < w.scopes.length
    · rw [if_pos hc]; exact foldl_aset_other keys _ _ k hmem
    · rw [if_neg hc]; rfl

theorem C12_decorated_value_is_decorator_output (p : Program) (S : Nat) (k : Key) (v : Val)
    (h : aget ((runProgram p).1.scope S).decoratedValues k = some v) :
    ∃ d slot decl, d < (runProgram p).1.decos.length ∧ ((runProgram p).1.deco d).s = S ∧
      (false, k, slot, decl) ∈ slotDecoLeaves p.types ((runProgram p).1.deco d).results ∧
      ∃ ret : Ret, v = ret.val p.types slot decl ∧
        (ret.dry = false → ret.f = ((runProgram p).1.deco d).fn.id ∧
          Event.exit (.deco d) ret.f ret.x .ok ∈ (runProgram p).1.hist) :=
  (just2_program p).dvalues S k v h

theorem C12_decorated_group_is_decorator_output (p : Program) (S : Nat) (k : Key) (v : Val)
    (h : aget ((runProgram p).1.scope S).decoratedGroups k = some v) :
    ∃ d slot decl, d < (runProgram p).1.decos.length ∧ ((runProgram p).1.deco d).s = S ∧
      (true, k, slot, decl) ∈ slotDecoLeaves p.types ((runProgram p).1.deco d).results ∧
      ∃ ret : Ret, v = ret.val p.types slot decl ∧
        (ret.dry = false → ret.f = ((runProgram p).1.deco d).fn.id ∧
          Event.exit (.deco d) ret.f ret.x .ok ∈ (runProgram p).1.hist) :=
  (just2_program p).dgroups S k v h


/-- **a running decorator is invisible to the resolution of its own arguments** -/
theorem C12_running_decorator_is_invisible (ctx : Ctx) (fuel d : Nat) (st : St) (h : (st.deco d).state = .onStack) :
    -- the container without `d`: same container, decorator tables without the entries for `d`
    (∀ j k, aget (tablesWithout d st j) k =
      if j < st.scopes.length then
        (match aget (st.scope j).decorators k with | some d' => if d' = d then none else some d' | none => none) else none) ∧
    (∀ ps c, buildList ctx fuel ps c (dset (tablesWithout d st) st) =
      ((buildList ctx fuel ps c st).1, dset (tablesWithout d st) (buildList ctx fuel ps c st).2)) ∧
    (∀ k opt c, buildSingle ctx fuel k opt c (dset (tablesWithout d st) st) =
      ((buildSingle ctx fuel k opt c st).1, dset (tablesWithout d st) (buildSingle ctx fuel k opt c st).2)) ∧
    (∀ k soft c, buildGroup ctx fuel k soft c (dset (tablesWithout d st) st) =
      ((buildGroup ctx fuel k soft c st).1, dset (tablesWithout d st) (buildGroup ctx fuel k soft c st).2)) := by
  have hh := hid_tablesWithout d st h
  have he := commd_engine d (tablesWithout d st) ctx fuel
  refine ⟨fun j k => ?_, fun ps c => (he.2.2.2.2.2 ps c st hh).1, fun k opt c => (he.2.2.1 k opt c st hh).1,
    fun k soft c => (he.2.2.2.1 k soft c st hh).1⟩
  rw [hh.tables j k]
  cases aget (st.scope j).decorators k <;> rfl

/-- the arguments of a decorator are built while it is on the stack (`callDeco`), i.e. in the situation of the theorem above -/
theorem C12_arguments_built_while_running (ctx : Ctx) (fuel d s : Nat) (st : St) (h : (st.deco d).state ≠ .called) :
    callDeco ctx (fuel + 1) d s st =
      EM.finally_
        (EM.bind (shallowCheck s (st.deco d).params) fun _ =>
         EM.bind (EM.wrapErr (buildList ctx fuel (st.deco d).params (st.deco d).s) .argsFailed) fun args =>
         decoTail ctx d (st.deco d) args)
        (fun st => st.modDeco d fun x => if x.state == .called then x else { x with state := .ready })
        (st.modDeco d fun x => { x with state := .onStack }) := by
  rw [callDeco_succ, if_neg]
  cases hst : (st.deco d).state <;> first | exact absurd hst h | exact nofun

#print axioms C12_running_decorator_is_invisible
#print axioms C12_arguments_built_while_running
#print axioms C12_consumer
#print axioms C12_decorated_value_is_decorator_output
#print axioms C12_decorated_group_is_decorator_output
#print axioms C12_self_skipped
#print axioms C12_local
#print axioms C12_once
#print axioms C12_one
end Dig.C12
