import DigModel.Proofs.TagGrammar
import DigModel.Proofs.Parse
import DigModel.Proofs.Rollback
import DigModel.Proofs.GhBoundApi
/-
  C14 — Bad input yields errors, never panics.

  The model's API functions are total Lean functions: every value of the input grammar (PROTOCOL.md §2:
  nil, non-functions, typed nil functions, arbitrary signatures over pointers, interfaces, slices, named
  slices, structs embedding dig.In / dig.Out / *dig.In / *dig.Out at any depth, arbitrary tag strings,
  arbitrary option combinations) gets a verdict. What is proved on top of totality:

  * `C14_nonfunc`: nil, non-function and nil-function values are rejected by Provide, Decorate and Invoke
    with a dig error and the container is returned unchanged;
  * `C14_bad_options`: invalid options (name+group, backquotes, As(nil / non-pointer / pointer to non-interface))
    reject a Provide before anything is touched;
  * `C14_rejected_decorate`, `C14_rejected_invoke_parse`: a Decorate that is rejected, and an Invoke whose
    signature is rejected, change nothing: the state afterwards equals the state before (the graph nodes of
    value-group parameters added by the parse are rolled back — repairs of F15 and F16, `parse_rollback_eq`);
  * `C14_no_events`: no rejected registration executes user code (C03_passive).
  * `C14_never_panics` (whole programs, every input of the grammar, every history): no operation of any program
    makes the model answer `panicDig`.  The model answers `panicDig` exactly where the Go code it follows would
    panic by itself: an order outside a graph holder or an unfinishable recursion in `graph.IsAcyclic`, a
    constructor listed as provider of a key it does not declare, a constructor or decorator that has run but
    whose value is not in the cache it was stored in.  These sites are unreachable: `SafeInv` (registry
    consistency `RegInv`/`RegWF`, node homes `HomeOK`, "built implies cached" `Cached`, order bounds `OB`) holds
    in every reachable container (`C14_reachable_safe`), `engine_nobug` excludes the resolver's sites under it and
    `checkAcyclic_total` the graph check's.
  "Never panics" beyond those sites is a statement about the Go runtime: it is observed by the correspondence check
  (any panic escaping dig, any process failure is a violation with the program as replay) under a
  generator profile in which 55 % of the registrations come from the malformed stream.
  The rejected-Provide half (`C06_provide_unchanged`) lives in Props/C06.lean.
-/
namespace Dig.C14

theorem C14_nonfunc (ctx : Ctx) (fn : Fn) (nf : NonFunc) (h : fn.nonfunc = some nf) (st : St) (i s : Nat)
    (o : ProvideOpts) (cb info : Bool) :
    apiProvide ctx fn st i s o = (st, { v := .err .invalid0 }) ∧
    apiDecorate ctx fn st i s cb info = (st, { v := .err .invalid0 }) ∧
    apiInvoke ctx fn st s info = (st, { v := .err .invalid0 }) := by
  refine ⟨?_, ?_, ?_⟩
  · simp [apiProvide, h]
  · simp [apiDecorate, h]
  · simp [apiInvoke, h]

theorem C14_bad_options (ctx : Ctx) (fn : Fn) (h : fn.nonfunc = none) (st : St) (i s : Nat) (o : ProvideOpts) (e : DErr)
    (hv : validateOpts ctx.env o = .error e) :
    apiProvide ctx fn st i s o = (st, { v := .err e }) := by
  simp [apiProvide, h, hv]

theorem C14_rejected_decorate (ctx : Ctx) (fn : Fn) (st : St) (i s : Nat) (cb info : Bool)
    (h : ¬ ((apiDecorate ctx fn st i s cb info).2.v matches .ok)) :
    (apiDecorate ctx fn st i s cb info).1 = st := by
  revert h
  exact apiDecorate_cases ctx fn st i s cb info (P := fun x => ¬ (x.2.v matches .ok) → x.1 = st) (fun _ _ => rfl)
    fun _ _ _ _ _ _ _ _ _ h => absurd rfl h

theorem C14_rejected_invoke_parse (ctx : Ctx) (fn : Fn) (hnf : fn.nonfunc = none) (st : St) (s : Nat) (info : Bool) (e : DErr)
    (h : (parseParams ctx.env st s fn).1 = .error e) :
    (apiInvoke ctx fn st s info).2.v = .err e ∧ (apiInvoke ctx fn st s info).1 = st ∧
    (apiInvoke ctx fn st s info).2.ev = [] := by
  have hp := parse_rollback_eq ctx.env st s fn
  unfold apiInvoke
  rw [hnf]
  cases hpp : parseParams ctx.env st s fn with
  | mk r w =>
    rw [hpp] at hp h
    cases h
    exact ⟨rfl, hp, rfl⟩

theorem C14_no_events (ctx : Ctx) (fns : List Fn) (st : St) (i : Nat) (op : Op) (h : op.isInvoke = false) :
    (step ctx fns st i op).2.ev = [] := step_passive ctx fns st i op h

theorem C14_never_panics (p : Program) : ∀ r ∈ (runProgram p).2, r.v ≠ .panicDig := program_never_panics p

theorem C14_reachable_safe (p : Program) : SafeInv p.types (runProgram p).1 := program_safeInv p

/-- the resolver itself, on any container satisfying the invariant, with any well-formed parameter list -/
theorem C14_resolver_no_panic (ctx : Ctx) (st : St) (h : SafeInv ctx.env st) (fuel : Nat) (ps : List Param) (c : Nat)
    (hwf : ParamsWF ps) : (buildList ctx fuel ps c st).1 ≠ .error .bug :=
  (engine_nobug ctx _ _ fuel).2.2.2.2.2 ps c st hwf h.nb.ei

/-- the graph check, on any container satisfying the invariant, in any scope -/
theorem C14_check_no_panic (env : TyEnv) (st : St) (h : SafeInv env st) (s : Nat) :
    checkAcyclic st s ≠ .outOfRange ∧ checkAcyclic st s ≠ .fuel := checkAcyclic_total h.ob s


/-- **the boolean struct tags** `optional` and `ignore-unexported`: an absent tag means false, the twelve spellings of
    `strconv.ParseBool` are accepted, every other value is an invalid-input error — never a panic, never a guess -/
theorem C14_bool_tag_grammar (tag : String) :
    boolTag tag =
      if tag = "" then .ok false
      else if tag ∈ ["1", "t", "T", "TRUE", "true", "True"] then .ok true
      else if tag ∈ ["0", "f", "F", "FALSE", "false", "False"] then .ok false
      else .error .invalid0 := boolTag_spec tag

#print axioms C14_bool_tag_grammar
#print axioms C14_never_panics
#print axioms C14_reachable_safe
#print axioms C14_resolver_no_panic
#print axioms C14_check_no_panic
#print axioms C14_nonfunc
#print axioms C14_bad_options
#print axioms C14_rejected_decorate
#print axioms C14_rejected_invoke_parse
#print axioms C14_no_events
end Dig.C14
