import DigModel.Proofs.Rollback
import DigModel.Proofs.DeferSim
import DigModel.Proofs.DecoCommuteProgram
/-
  C16 — Registration order and verification timing do not matter (verification-timing half).

  * **`C16_defer_changes_nothing`** (whole programs, full strength): for every program run without
    DeferAcyclicVerification in which no operation reports a cycle, the same program with the option switched on
    answers *every operation identically* — same verdicts and error chains, same events (which functions ran, in which
    order, with which arguments, which callbacks fired with which error and runtime), same Info structs.
    Proof (`Proofs/VSet.lean`, `VSetApi.lean`, `CtxCongr.lean`, `AcycInv.lean`, `DeferSim.lean`): a step-by-step
    simulation on containers equal up to the `isVerifiedAcyclic` flags.  The resolver commutes with any reassignment
    of the flags (`comm_engine`, an instance of the two-run induction `engine_sim`) and reads the configuration only through
    RecoverFromPanics and DryRun (`engine_ctx`); so do parsing, registration, roll-back and Decorate; `Scope.Scope`
    respects the relation; the only reader of the flags is Invoke's check, and there both runs find the graph acyclic
    because the eager run keeps *every* scope's graph acyclic at all times (`C16_eager_always_acyclic`, i.e.
    `EagerInv`: accepted Provides verify what they affect and leave the other scopes' graphs alone, rejected
    operations are rolled back, a parse only appends fresh value-group nodes nothing depends on, a new scope shows its
    parent's graph);

  * `C16_defer_never_rejects`: with DeferAcyclicVerification the verification loop of Provide never fails; it
    only clears the `isVerifiedAcyclic` flag of every affected scope;
  * `C16_eager_step`, `C16_eager_failure_names_a_check`: without it, the loop checks the graph of each affected scope
    in turn (with the new node in place) and sets its flag when the check answers "acyclic"; a failure names a
    scope whose check did not;
  * `C16_invoke_checks`: an Invoke on a scope whose flag is not set runs the same check before building
    anything; on a cycle it returns `errInvalidInput{errCycleDetected}` without building or executing anything
    and leaves the flag unset;
  * `C16_flags_only`: the verification loop changes nothing but those flags (`Work` is preserved by it), so the
    deferred and the eager container differ in flags only as long as no check fails.
  The permutation half (any order of an accepted block, scope creation earlier or later) is checked by the
  metamorphic twins on the real library and by the correspondence.  Proved is one slice of it,
  `C16_provide_and_decorate_commute_partial` (`Proofs/DecoCommute.lean`): Provide neither reads nor writes what Decorate
  registers (`dtr_apiProvide`: it commutes with any replacement of the decorator tables and of the list of decorator
  nodes, through parsing, registration, the verification loop and every roll-back), so a Provide and an adjacent
  Decorate whose decorator has no value-group parameter (its parse adds no graph node) can be swapped — accepted or
  rejected, whatever the scopes and options: the same two answers and the very same container, hence the same
  outcome of everything that follows — also inside any history (`C16_history_provide_decorate_swap_partial`, no
  callbacks: a callback remembers the number of the operation that registered it); and so can the creation of a child scope and such a Decorate on an existing scope
  (`C16_scope_and_decorate_commute_partial`).  Swapping two Provides, or a Decorate with value-group parameters, changes node
  indices and the order of graph holders; that needs a simulation up to a renaming through the whole resolver and is
  not proved.
-/
namespace Dig.C16

theorem C16_defer_never_rejects (cfg : Cfg) (hd : cfg.deferAcyclic = true) : ∀ (l : List Nat) (w : St),
    (verifyScopes cfg l w).1 = .ok () := verifyScopes_defer_ok cfg hd

theorem C16_eager_step (cfg : Cfg) (hd : cfg.deferAcyclic = false) (sc : Nat) (rest : List Nat) (w : St) :
    verifyScopes cfg (sc :: rest) w =
      match checkAcyclic (w.modScope sc fun x => { x with verified := false }) sc with
      | .acyclic => verifyScopes cfg rest ((w.modScope sc fun x => { x with verified := false }).modScope sc
          fun x => { x with verified := true })
      | r => (.error (sc, r), w.modScope sc fun x => { x with verified := false }) := by
  simp only [verifyScopes, hd, Bool.false_eq_true, if_false]
  cases checkAcyclic (w.modScope sc fun x => { x with verified := false }) sc <;> rfl

theorem C16_eager_failure_names_a_check (cfg : Cfg) (hd : cfg.deferAcyclic = false) : ∀ (l : List Nat) (w : St) (sc : Nat)
    (r : CycleRes) (w' : St), verifyScopes cfg l w = (.error (sc, r), w') → sc ∈ l ∧ r ≠ .acyclic :=
  fun l w sc r _ h =>
    have h' := verifyScopes_err_check cfg l w sc r (by rw [h])
    ⟨h'.1, h'.2.2⟩

theorem C16_flags_only {st : St} {target : Nat} (cfg : Cfg) (l : List Nat) (w : St) (h : Work st w target) :
    Work st (verifyScopes cfg l w).2 target := work_verifyScopes cfg l w h

theorem C16_invoke_checks (ctx : Ctx) (fn : Fn) (hnf : fn.nonfunc = none) (st : St) (s : Nat) (info : Bool)
    (params : List Param) (w : St) (hpp : parseParams ctx.env st s fn = (.ok params, w))
    (hm : missingOfList w s params = []) (hv : (w.scope s).verified = false) (p : List Nat)
    (hc : checkAcyclic w s = .cycle p) :
    apiInvoke ctx fn st s info = (w, { v := .err (.invalid (.cycle (cyclePath w s p) s)) }) := by
  unfold apiInvoke
  simp only [hnf, hpp, shallowCheck, hm, hv, hc, Bool.false_eq_true, if_false]

theorem C16_defer_changes_nothing (p : Program) (hd : p.cfg.deferAcyclic = false)
    (hnc : ∀ r ∈ (runProgram p).2, ∀ e, r.v = .err e → e.isCycleDetected = false) :
    (runProgram { p with cfg := { p.cfg with deferAcyclic := true } }).2 = (runProgram p).2 :=
  defer_changes_nothing p hd hnc

theorem C16_eager_always_acyclic (p : Program) (hd : p.cfg.deferAcyclic = false) (s : Nat)
    (hs : s < (runProgram p).1.scopes.length) : checkAcyclic (runProgram p).1 s = .acyclic :=
  (eager_program_acyclic p hd s hs).1

/-- the resolver neither reads nor writes the flags: it commutes with any reassignment of them -/
theorem C16_resolver_ignores_flags (g : Nat → Bool) (ctx : Ctx) (fuel : Nat) (ps : List Param) (c : Nat) (st : St) :
    buildList ctx fuel ps c (vset g st) = ((buildList ctx fuel ps c st).1, vset g (buildList ctx fuel ps c st).2) :=
  (comm_engine g ctx fuel).2.2.2.2.2 ps c st

/-- non-vacuity (a test): a program whose operations all succeed reports no cycle -/
example (p : Program) (h : ∀ r ∈ (runProgram p).2, r.v = .ok) : ∀ r ∈ (runProgram p).2, ∀ e, r.v = .err e → e.isCycleDetected = false := by
  intro r hr e he; rw [h r hr] at he; cases he


/-- one slice of the permutation half: **a Provide and an adjacent Decorate can be swapped** when the decorator has no
    value-group parameter (`noGroupT`: no field, at any depth of parameter objects, carries a `group` tag) — the two calls give the same two answers (verdict, error, Info) in either order and
    leave the very same container, so every later operation is answered identically -/
theorem C16_provide_and_decorate_commute_partial (ctx : Ctx) (fP fD : Fn) (st : St) (iP iD sP sD : Nat) (o : ProvideOpts)
    (cb info : Bool) (h : ∀ t ∈ (if fD.variadic then fD.ins.dropLast else fD.ins), noGroupT t = true) :
    (apiDecorate ctx fD (apiProvide ctx fP st iP sP o).1 iD sD cb info).1 =
      (apiProvide ctx fP (apiDecorate ctx fD st iD sD cb info).1 iP sP o).1 ∧
    (apiProvide ctx fP st iP sP o).2 = (apiProvide ctx fP (apiDecorate ctx fD st iD sD cb info).1 iP sP o).2 ∧
    (apiDecorate ctx fD (apiProvide ctx fP st iP sP o).1 iD sD cb info).2 = (apiDecorate ctx fD st iD sD cb info).2 :=
  provide_decorate_swap_noGroup ctx fP fD st iP iD sP sD o cb info h

/-- the first slice **inside a history**: in any program, a Provide and a Decorate (no callbacks; the decorator has no
    value-group parameter) that stand next to each other can change places — the container at the end of the program
    is the same and every operation is answered the same, the two answers having changed places with their operations.
    So every later Invoke, Visualize or registration sees the same verdict and the same wiring. -/
theorem C16_history_provide_decorate_swap_partial (p : Program) (pre post : List Op) (sP fP sD fD : Nat) (o : ProvideOpts)
    (info : Bool) (ho : o.cb = false)
    (hng : ∀ fd, fnOf p.fns fD = some fd → ∀ t ∈ (if fd.variadic then fd.ins.dropLast else fd.ins), noGroupT t = true) :
    (runProgram { p with ops := pre ++ .provide sP fP o :: .decorate sD fD false info :: post }).1 =
      (runProgram { p with ops := pre ++ .decorate sD fD false info :: .provide sP fP o :: post }).1 ∧
    ∃ l1 rP rD l2,
      (runProgram { p with ops := pre ++ .provide sP fP o :: .decorate sD fD false info :: post }).2 = l1 ++ rP :: rD :: l2 ∧
      (runProgram { p with ops := pre ++ .decorate sD fD false info :: .provide sP fP o :: post }).2 = l1 ++ rD :: rP :: l2 ∧
      l1.length = pre.length := by
  have h := runOps_provide_decorate_swap p.ctx p.fns sP fP sD fD o info ho hng post pre 0 {} []
  obtain ⟨h1, l1, rP, rD, l2, e1, e2, hl⟩ := h
  exact ⟨h1, l1, rP, rD, l2, e1, e2, by simpa using hl⟩

/-- a second slice: **creating a child scope and an adjacent Decorate can be swapped** (the decorator has no value-group
    parameter and decorates a scope that exists already): the same answer, the very same container — "creating a
    child scope earlier or later relative to its ancestors' registrations", for decorators -/
theorem C16_scope_and_decorate_commute_partial (ctx : Ctx) (fD : Fn) (st : St) (parent iD sD : Nat) (cb info : Bool)
    (hsD : sD < st.scopes.length) (h : ∀ t ∈ (if fD.variadic then fD.ins.dropLast else fD.ins), noGroupT t = true) :
    (apiDecorate ctx fD (apiScope st parent) iD sD cb info).1 = apiScope (apiDecorate ctx fD st iD sD cb info).1 parent ∧
    (apiDecorate ctx fD (apiScope st parent) iD sD cb info).2 = (apiDecorate ctx fD st iD sD cb info).2 :=
  scope_decorate_swap_noGroup ctx fD st parent iD sD cb info hsD h

/-- ... because Provide commutes with any replacement of what Decorate registers -/
theorem C16_provide_ignores_decorators (T : Nat → List (Key × Nat)) (ds : List DecoNode) (ctx : Ctx) (fn : Fn) (st : St)
    (i s : Nat) (o : ProvideOpts) :
    apiProvide ctx fn (dtr T ds st) i s o = (dtr T ds (apiProvide ctx fn st i s o).1, (apiProvide ctx fn st i s o).2) :=
  dtr_apiProvide T ds ctx fn st i s o

/-- non-vacuity (a test): a decorator `func(*T0, struct{ dig.In; A *T1 `name:"n"` }) *T0` has no value-group parameter -/
example : ∀ t ∈ [GoT.univ 10, GoT.strct 100 [({ name := "In", exported := true, anon := true, tags := {} }, .univ 1),
      ({ name := "A", exported := true, anon := false, tags := { name := "n" } }, .univ 11)]], noGroupT t = true := by
  decide

/-! ### finding F19: the order of two accepted Provides *is* visible through a soft value group

  The permutation half is stated `_partial` for a reason the model itself shows (a *test*, run by the evaluator at build
  time; the same program is `corpus/F19-soft-group-after-failed-invoke.json`, replayed on the real library by every run
  of `./check C16`): constructors `a` (needs a type nobody provides) and `b` both feed group `g`; an Invoke with a hard
  `group:"g"` parameter fails — after running `b` when `b` was registered first, before running anything when `a` was;
  what `b` returned stays stored, and the next Invoke with `group:"g,soft"` receives one member in one order and none
  in the other.  Both Provides are accepted in both orders, the last Invoke succeeds in both. -/
def f19Types : List TypeInfo :=
  [{ id := 0, kind := .iface, elem := none, impl := [], isErr := true },
   { id := 10, kind := .ptr, elem := none, impl := [], isErr := false },
   { id := 11, kind := .ptr, elem := none, impl := [], isErr := false },
   { id := 31, kind := .slice, elem := some 11, impl := [], isErr := false }]
def f19In : FieldMeta × GoT := ({ name := "In", exported := true, anon := true, tags := {} }, .univ tIn)
def f19Fns : List Fn :=
  [{ id := 1, name := "a", nonfunc := none, ins := [.univ 10], variadic := false, outs := [.univ 11] },
   { id := 2, name := "b", nonfunc := none, ins := [], variadic := false, outs := [.univ 11] },
   { id := 3, name := "hard", nonfunc := none, variadic := false, outs := [],
     ins := [.strct 100 [f19In, ({ name := "G", exported := true, anon := false, tags := { group := "g" } }, .univ 31)]] },
   { id := 4, name := "soft", nonfunc := none, variadic := false, outs := [],
     ins := [.strct 101 [f19In, ({ name := "G", exported := true, anon := false, tags := { group := "g,soft" } }, .univ 31)]] }]
def f19Prog (first second : Nat) : Program :=
  { cfg := {}, types := f19Types, fns := f19Fns, script := [],
    ops := [.provide 0 first { group := "g" }, .provide 0 second { group := "g" }, .invoke 0 3 false, .invoke 0 4 false] }
/-- verdicts (0 ok, 1 error) and the number of members the last, successful Invoke hands to its soft parameter -/
def f19Obs (p : Program) : List Nat × Option Nat :=
  let rs := (runProgram p).2
  (rs.map fun r => match r.v with | .ok => 0 | _ => 1,
   match rs.getLast? with
   | some r => (match r.ev with
     | .enter _ _ _ [.obj [.sl xs]] :: _ => some xs.length
     | _ => none)
   | none => none)
#guard f19Obs (f19Prog 1 2) == ([0, 0, 1, 0], some 0)
#guard f19Obs (f19Prog 2 1) == ([0, 0, 1, 0], some 1)

#print axioms C16_defer_changes_nothing
#print axioms C16_provide_and_decorate_commute_partial
#print axioms C16_provide_ignores_decorators
#print axioms C16_history_provide_decorate_swap_partial
#print axioms C16_scope_and_decorate_commute_partial
#print axioms C16_eager_always_acyclic
#print axioms C16_resolver_ignores_flags
#print axioms C16_invoke_checks
#print axioms C16_defer_never_rejects
#print axioms C16_eager_step
#print axioms C16_eager_failure_names_a_check
#print axioms C16_flags_only
end Dig.C16
