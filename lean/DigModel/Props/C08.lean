import DigModel.Proofs.Lookup
import DigModel.Api
import DigModel.Proofs.ReachApi
import DigModel.Proofs.Visible
import DigModel.Proofs.ProvideStages
/-
  C08 — Scope visibility: down the tree only, nearest wins, creation order irrelevant.

  * `C08_path_only`: the provider search of `paramSingle.Build` only ever answers with a scope on the path from
    the requesting scope to the root (`ancestors`), and the nearest one that has a cached value or a provider;
    the same holds for decorators (C12_local) — so nothing registered in a sibling or a descendant is reachable;
  * `C08_child_path`: in a well-formed tree the path of a freshly created child scope is the child followed by
    the path of its parent — whatever was registered in the ancestors *before* the child was created is on the
    child's path exactly like what is registered afterwards (the look-ups read the ancestors' tables at
    resolution time, not a copy taken at creation time);
  * `C08_all_providers_on_path`: the providers seen by the pre-call check are those of the scopes on the path.
  * `C08_reachable_providers_visible` (with `C03_only`): a constructor that an Invoke may run *directly* for a
    single key is listed in the providers of a scope on the path from the requesting scope to the root, and no
    scope nearer on that path provides the key (nearest wins) — constructors of siblings, descendants and of
    farther ancestors that are shadowed are not reachable for that key;
  * `C08_visible_iff` (**whole programs**): in the container any program leaves behind, a constructor is a visible
    provider of a plain key it declares, as seen from scope `s`, **iff** its home scope is on the path from `s` to the
    root — its own scope and every descendant, whenever created; never an ancestor, never a sibling
    (`RegInv.regOK`, `RegWF.provPlain`);
  * `C08_path_is_subtree`: `a` is on the path of `s` ⇒ `s` is in the subtree of `a` (what Provide's walk over the
    descendants relies on; `TreeInv`);
  * `C08_home_scope` (any reachable container, any accepted Provide): the constructor is registered in the scope the call
    was made on, or in the **root** if the call carried `Export(true)`; `C08_root_visible_everywhere`: a constructor whose
    home is the root is a visible provider from *every* scope (the root is on every path: the tree has one root);
  The graph-order half of "creation order is irrelevant" is covered by C05 (`GT`: holders mean dependencies whatever
  the order of scope creation and registration), the C16 twins and the correspondence check.
-/
namespace Dig.C08

theorem C08_path_only (st : St) (k : Key) (c : Nat) :
    (∀ v, findProviders st k (st.ancestors c) = .value v →
        ∃ pre s post, st.ancestors c = pre ++ s :: post ∧ aget (st.scope s).values k = some v ∧
          ∀ s' ∈ pre, aget (st.scope s').values k = none ∧ agetL (st.scope s').providers k = []) ∧
    (∀ pc ns, findProviders st k (st.ancestors c) = .providers pc ns →
        pc ∈ st.ancestors c ∧ ns = agetL (st.scope pc).providers k ∧
        ∃ pre post, st.ancestors c = pre ++ pc :: post ∧
          ∀ s' ∈ pre, aget (st.scope s').values k = none ∧ agetL (st.scope s').providers k = []) := by
  constructor
  · intro v h; exact findProviders_value st k _ v h
  · intro pc ns h
    obtain ⟨pre, post, e, h1, _, _, h4⟩ := findProviders_provs st k _ pc ns h
    exact ⟨by rw [e]; simp, h1, pre, post, e, h4⟩

theorem C08_all_providers_on_path (st : St) (c : Nat) (k : Key) (n : Nat) (h : n ∈ st.allProviders c k) :
    ∃ s ∈ st.ancestors c, n ∈ agetL (st.scope s).providers k :=
  mem_allProviders.mp h

theorem nearestProv_spec (st : St) (k : Key) : ∀ (anc : List Nat) (pc : Nat) (ns : List Nat),
    nearestProv st k anc = some (pc, ns) →
    ∃ pre post, anc = pre ++ pc :: post ∧ ns = agetL (st.scope pc).providers k ∧ ns ≠ [] ∧
      ∀ s ∈ pre, agetL (st.scope s).providers k = [] := by
  intro anc
  induction anc with
  | nil => intro pc ns h; simp [nearestProv] at h
  | cons s rest ih =>
    intro pc ns h
    simp only [nearestProv] at h
    cases hp : agetL (st.scope s).providers k with
    | nil =>
      rw [hp] at h
      obtain ⟨pre, post, e, h1, h2, h3⟩ := ih pc ns h
      refine ⟨s :: pre, post, by rw [e]; rfl, h1, h2, ?_⟩
      intro s' hs'
      rcases List.mem_cons.mp hs' with rfl | hm
      · exact hp
      · exact h3 s' hm
    | cons n more =>
      rw [hp] at h
      simp only [Option.some.injEq, Prod.mk.injEq] at h
      obtain ⟨rfl, rfl⟩ := h
      exact ⟨[], rest, rfl, hp.symm, by simp, by simp⟩

theorem C08_reachable_providers_visible (st : St) (c : Nat) (k : Key) (pc : Nat) (ns : List Nat) (n : Nat)
    (hn : nearestProv st k (st.ancestors c) = some (pc, ns)) (hm : n ∈ ns) :
    pc ∈ st.ancestors c ∧ n ∈ agetL (st.scope pc).providers k ∧
    ∃ pre post, st.ancestors c = pre ++ pc :: post ∧ ∀ s ∈ pre, agetL (st.scope s).providers k = [] := by
  obtain ⟨pre, post, e, h1, _, h3⟩ := nearestProv_spec st k _ pc ns hn
  exact ⟨by rw [e]; simp, by rw [← h1]; exact hm, pre, post, e, h3⟩

theorem C08_visible_iff (p : Program) (m : Nat) (hm : m < (runProgram p).1.ctors.length) (k : Key)
    (hk : k ∈ ctorKeys (runProgram p).1 m) (hg : k.group = "") (s : Nat) :
    m ∈ (runProgram p).1.allProviders s k ↔ ((runProgram p).1.ctor m).s ∈ (runProgram p).1.ancestors s :=
  visible_iff (program_safeInv p).nb.reg (program_safeInv p).nb.wf m hm k hk hg s

theorem C08_path_is_subtree (p : Program) (s a : Nat) (h : a ∈ (runProgram p).1.ancestors s) :
    s ∈ (runProgram p).1.subscopes a :=
  mem_subscopes_of_mem_ancestors (gt_program p).tree h

theorem C08_root_visible_everywhere (p : Program) (m : Nat) (hm : m < (runProgram p).1.ctors.length)
    (hhome : ((runProgram p).1.ctor m).s = 0) (k : Key) (hk : k ∈ ctorKeys (runProgram p).1 m) (s : Nat)
    (hs : s < (runProgram p).1.scopes.length) : m ∈ (runProgram p).1.allProviders s k :=
  root_visible_everywhere (program_safeInv p).nb.reg (gt_program p).tree m hm hhome k hk s hs

theorem C08_home_scope (p : Program) (fn : Fn) (i s : Nat) (o : ProvideOpts)
    (hok : (apiProvide p.ctx fn (runProgram p).1 i s o).2.v = .ok) :
    (apiProvide p.ctx fn (runProgram p).1 i s o).1.ctors.length = (runProgram p).1.ctors.length + 1 ∧
    ((apiProvide p.ctx fn (runProgram p).1 i s o).1.ctor (runProgram p).1.ctors.length).s = (if o.export_ then St.root else s) ∧
    ((apiProvide p.ctx fn (runProgram p).1 i s o).1.ctor (runProgram p).1.ctors.length).fn = fn :=
  apiProvide_ok_home (gt_program p) (program_safeInv p).ob p.ctx fn i s o hok

/-- parents have smaller indexes than their children (scopes are only ever appended) -/
def WFTree (scopes : List ScopeSt) : Prop :=
  ∀ j (sc : ScopeSt), scopes[j]? = some sc → ∀ p, sc.parent = some p → p < j

theorem C08_child_path (st : St) (parent : Nat) (hp : parent < st.scopes.length) (hwf : WFTree st.scopes) :
    (apiScope st parent).ancestors st.scopes.length = st.scopes.length :: st.ancestors parent :=
  (apiScope_ancestors_wf hwf parent hp).2

/-- the tree stays well-formed when a scope is created -/
theorem C08_tree_wf (st : St) (parent : Nat) (hp : parent < st.scopes.length) (hwf : WFTree st.scopes) :
    WFTree (apiScope st parent).scopes := by
  intro j sc hj p hpar
  obtain ⟨hjl, rfl⟩ := scope_of_getElem? hj
  by_cases h : j = st.scopes.length
  · subst h
    rw [(apiScope_scope st parent hp).2, if_pos rfl] at hpar
    exact Option.some.inj hpar ▸ hp
  · rw [(apiScope_scope_old st parent hp h).1] at hpar
    rw [(apiScope_scope st parent hp).1] at hjl
    exact hwf j _ (getElem?_scope (Nat.lt_of_le_of_ne (Nat.le_of_lt_succ hjl) h)) p hpar

#print axioms C08_visible_iff
#print axioms C08_path_is_subtree
#print axioms C08_root_visible_everywhere
#print axioms C08_home_scope
#print axioms C08_path_only
#print axioms nearestProv_spec
#print axioms C08_reachable_providers_visible
#print axioms C08_all_providers_on_path
#print axioms C08_child_path
#print axioms C08_tree_wf
end Dig.C08
