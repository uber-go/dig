import DigModel.Proofs.DfsTotal
import DigModel.Proofs.Termination
import DigModel.Proofs.Views
import DigModel.Proofs.GhBoundApi
import DigModel.Proofs.ProvideStages
import DigModel.Proofs.PgInv
import DigModel.Proofs.AcycInv
/-
  C05 — Cycle safety, graph part (internal/graph/graph.go, full strength, any graph size):

  * `C05_dfs_sound`    : `isAcyclic` answers ok  ⇒ the graph has no closed walk;
  * `C05_path`         : `isAcyclic` answers `cycle p` ⇒ `p` is a real closed walk (length ≥ 2, first = last, consecutive nodes are edges);
  * `C05_dfs_total`    : with successors in range and fuel `n+1` the search never runs out of fuel;
  * `C05_dfs_complete` : a closed walk among the nodes `< n` exists ⇒ the answer is a cycle.

  Resolver part (constructor.go / decorate.go / param.go, any registry — cyclic or not —, any history):

  * `C05_resolver_terminates` : a `Call` of a constructor never exhausts a recursion budget of
    `k·(D+3)+1`, where `k` bounds the number of idle nodes (neither built nor being built) and `D` the depth of
    parameter objects: a node that is being built is marked and is never entered again, so a dependency
    cycle that the graph check did not see ends in a cycle error (`C20_onstack`) instead of unbounded recursion;
  * `C05_invoke_total` : in every program no operation runs out of the budget `apiInvoke` hands out
    (the model's `fuel` answer is unreachable: its verdicts are those of a terminating computation).

  Container part (provide.go / invoke.go; the graph of scope `sc` is `edgesFrom st sc` over the holder
  `(st.scope sc).gh`, i.e. exactly what `graphHolder.EdgesFrom` answers):

  * `C05_provide_accepted_views_acyclic` : without DeferAcyclicVerification, after an accepted Provide the graph
    of the target scope and of every descendant scope — with the new constructor in place — has no closed
    walk (the DFS answered "ok" on the graph of the *final* container, since the later steps of the call touch
    flags and `nodes` only; with `C05_dfs_sound` this is acyclicity);
  * `C05_provide_cycle_is_real` : a Provide rejected with a cycle error reports the constructor projection of a
    *real* closed walk of some affected scope's graph, as that graph stood with the new constructor in place
    (no false positive: if every affected view is acyclic there is no such walk);
  * `C05_invoke_cycle_is_real` : likewise for the check made by Invoke on a scope that is not verified yet;
  * `C05_invoke_runs_only_on_acyclic_view` : an Invoke that gets as far as resolving anything works on a scope whose
    graph has no closed walk.
  What the holder graph *means* (`Proofs/Tree.lean`, `GraphMeaning*.lean`, `AcycSem.lean`): in every reachable container (`GT`:
  `GM0` ∧ `TreeInv`, through Provide and its roll-back, Decorate, Scope's copy of the parent's holder, Invoke's
  parse, the resolver) the order recorded for a node in a scope points at that node in the scope's holder, and every
  constructor that provides something visible from a scope — in the scope or any ancestor, registered before or
  after the scope was created, exported or not — has its node in that scope's holder (this uses: whoever has the
  target on its path to the root is reached by the walk over the target's subtree, `mem_subscopes_of_mem_ancestors`).
  Hence a dependency between constructors as seen from a scope *is* an edge of that scope's holder graph, and
  * `C05_dependency_cycle_is_found` (**whole programs**): if in the container a program leaves behind, as seen from
    a scope `s`, constructor `n₀` depends on `n₁`, …, `n_r` on `n₀` — through plain, named or optional parameters at
    any depth of parameter objects, each provider visible from `s`, i.e. under the most permissive reading in which
    a parameter depends on *every* visible provider of its key — then `graph.IsAcyclic` of `s`'s holder answers
    `cycle`; so a Provide that closes such a cycle in the target or any descendant is rejected, and an Invoke
    from an unverified scope that sees one fails before anything runs;
  * `C05_provide_closing_a_cycle_fails` (**any reachable container, any Provide**): without DeferAcyclicVerification, if
    in the container with the new constructor registered (`provideRegister`: `apiProvide` with its stages named,
    `apiProvide_eq`) the target scope or *any of its descendants* sees a dependency cycle among constructors,
    the Provide returns an error with `IsCycleDetected` and the container is rolled back (equal to the one before,
    up to the `isVerifiedAcyclic` flags);
  * `C05_invoke_seeing_a_cycle_fails`: an Invoke from a scope not verified yet (DeferAcyclicVerification) that sees a
    dependency cycle fails with such an error, with no event at all: nothing is built, nothing runs;
  * `C05_acyclic_answer_excludes_dependency_cycles`: conversely an "acyclic" answer for `s` means there is no such cycle.
  * `C05_cycle_through_groups_is_found` (**whole programs**): the same with value-group edges.  A constructor depends
    on the graph node of each of its value-group parameters (`NodeDep.toGroup`), that node depends on every visible
    provider of the group (`NodeDep.fromGroup`); `C05_group_parameter_node`: in every reachable container the node of
    a group parameter of a registered constructor stands for exactly that parameter's (element type, group) — the
    parser links each grouped parameter to the descriptor it created for it (`PgOK`, `paramRule_link`), the nodes are put into the
    holders of the scope and all its descendants before the constructor's node is (`PG`).  A closed chain of such
    dependencies among the nodes of `s`'s holder — it suffices that the *constructor* nodes are in the holder —
    makes the check answer `cycle`.
  * `C05_holder_edge_is_dependency`, `C05_reported_cycle_is_a_dependency_cycle` (**whole programs**, the converse): every
    edge of a scope's holder graph joins two nodes of the holder of which the first depends on the second, so the path a
    cycle answer lists is a closed chain of real dependencies — no false positive at the level of constructors either.
  Together: for the nodes of a scope's holder, the graph `IsAcyclic` walks *is* the dependency graph under the most
  permissive reading (`acyclic_iff_noCycle`: the check answers "acyclic" ⇔ no closed chain of dependencies exists).
  * `C05_eager_containers_are_acyclic` (**whole programs**): without DeferAcyclicVerification, at the end of *every*
    history every scope's check answers "acyclic" and no scope sees a dependency cycle — accepted Provides verify the
    scopes they affect and leave all other scopes' graphs as they were (`localSame_work`), rejected operations are rolled
    back, a parse (Decorate, Invoke) only appends fresh value-group nodes nothing depends on (`NoCycle.grow`), a new
    scope shows its parent's graph (`localSame_scope`), the resolver touches no graph (`localSame_regFrame`).
-/
namespace Dig.C05
open Dfs

/-- a walk `a :: l` (consecutive nodes are edges, all nodes `< n`) of an accepted graph never returns to its start -/
theorem C05_dfs_sound (g : Nat → List Nat) (n : Nat) (vis : List Nat) (h : isAcyclic g n = .ok vis)
    (a : Nat) (l : List Nat) (hl : l ≠ []) (hn : ∀ x ∈ a :: l, x < n) (hw : IsWalk g (a :: l)) :
    (a :: l).getLast (by simp) ≠ a :=
  isAcyclic_sound g n vis h a l hl hn hw

theorem C05_path (g : Nat → List Nat) (n : Nat) (p : List Nat) (h : isAcyclic g n = .cycle p) :
    IsClosedWalk g p := isAcyclic_cycle g n p h

theorem C05_dfs_total (g : Nat → List Nat) (n : Nat) (hg : ∀ x, x < n → ∀ y ∈ g x, y < n) :
    isAcyclic g n ≠ .oof := isAcyclic_total g n hg

theorem C05_dfs_complete (g : Nat → List Nat) (n : Nat) (hg : ∀ x, x < n → ∀ y ∈ g x, y < n)
    (a : Nat) (l : List Nat) (hl : l ≠ []) (hn : ∀ x ∈ a :: l, x < n) (hw : IsWalk g (a :: l))
    (hclosed : (a :: l).getLast (by simp) = a) : ∃ p, isAcyclic g n = .cycle p ∧ IsClosedWalk g p :=
  isAcyclic_complete g n hg a l hl hn hw hclosed

theorem C05_resolver_terminates (ctx : Ctx) (L L' D k fuel n c : Nat) (st : St) (hn : n < L)
    (hreg : ValidReg st) (hL : st.ctors.length = L) (hL' : st.decos.length = L')
    (hD : (∀ m, pdepthL (st.ctor m).params ≤ D) ∧ (∀ d, pdepthL (st.deco d).params ≤ D))
    (hk : idle L L' st ≤ k) (hfuel : k * (D + 3) + 1 ≤ fuel) :
    (callCtor ctx fuel n c st).1 ≠ .error .fuel :=
  (engine_nofuel ctx L L' D fuel).1 n c k st hn ⟨⟨hreg, hL, hL'⟩, hD.1, hD.2, hk⟩ hfuel

theorem C05_invoke_total (p : Program) : ∀ r ∈ (runProgram p).2, r.v ≠ .fuel :=
  runOps_nofuel p.ctx p.fns p.ops 0 {} [] HInv.init (fun _ h => by cases h)


/-- the verification loop of an accepted Provide: every affected scope's graph, in the final container, passes the DFS -/
theorem C05_verified_scopes_acyclic (cfg : Cfg) (hd : cfg.deferAcyclic = false) (l : List Nat) (w : St)
    (hok : (verifyScopes cfg l w).1 = .ok ()) (sc : Nat) (hsc : sc ∈ l) :
    ∃ vis, isAcyclic (edgesFrom (verifyScopes cfg l w).2 sc) ((verifyScopes cfg l w).2.scope sc).gh.length = .ok vis :=
  checkAcyclic_acyclic _ sc (verifyScopes_ok_acyclic cfg hd l w hok sc hsc)

/-- ... and therefore has no closed walk -/
theorem C05_provide_accepted_views_acyclic (cfg : Cfg) (hd : cfg.deferAcyclic = false) (l : List Nat) (w : St)
    (hok : (verifyScopes cfg l w).1 = .ok ()) (sc : Nat) (hsc : sc ∈ l)
    (a : Nat) (p : List Nat) (hp : p ≠ []) (hn : ∀ x ∈ a :: p, x < ((verifyScopes cfg l w).2.scope sc).gh.length)
    (hw : IsWalk (edgesFrom (verifyScopes cfg l w).2 sc) (a :: p)) : (a :: p).getLast (by simp) ≠ a :=
  checkAcyclic_sound _ sc (verifyScopes_ok_acyclic cfg hd l w hok sc hsc) a p hp hn hw

/-- the final container of an accepted Provide has the same graphs as the one the loop ended with: the last step
    only appends to `nodes` -/
theorem C05_accept_step_keeps_graphs (w : St) (target n : Nat) :
    GraphSame w (w.modScope target fun x => { x with nodes := x.nodes ++ [n] }) :=
  graphSame_modScope w target _ (fun _ => ⟨rfl, rfl, rfl⟩)

/-- a rejection by the verification loop: the scope named is one of the affected scopes and the path is a real
    closed walk of its graph (with the new constructor in place) -/
theorem C05_provide_cycle_is_real (cfg : Cfg) (l : List Nat) (w : St) (sc : Nat) (p : List Nat)
    (herr : (verifyScopes cfg l w).1 = .error (sc, .cycle p)) :
    sc ∈ l ∧ IsClosedWalk (edgesFrom (verifyScopes cfg l w).2 sc) p := by
  obtain ⟨h1, h2, _⟩ := verifyScopes_err_check cfg l w sc (.cycle p) herr
  exact ⟨h1, isAcyclic_cycle _ _ p (checkAcyclic_cycle _ sc p h2)⟩

/-- the check made by Invoke on a scope that is not verified yet: a cycle verdict shows a real closed walk -/
theorem C05_invoke_cycle_is_real (st : St) (s : Nat) (p : List Nat) (h : checkAcyclic st s = .cycle p) :
    IsClosedWalk (edgesFrom st s) p := isAcyclic_cycle _ _ p (checkAcyclic_cycle st s p h)

theorem C05_invoke_runs_only_on_acyclic_view (st : St) (s : Nat) (h : checkAcyclic st s = .acyclic)
    (a : Nat) (p : List Nat) (hp : p ≠ []) (hn : ∀ x ∈ a :: p, x < (st.scope s).gh.length)
    (hw : IsWalk (edgesFrom st s) (a :: p)) : (a :: p).getLast (by simp) ≠ a :=
  checkAcyclic_sound st s h a p hp hn hw

/-- the acyclicity verdict of a scope does not depend on flags, caches, logs or `nodes` lists -/
theorem C05_check_reads_graph_only {a b : St} (h : GraphSame a b) (s : Nat) : checkAcyclic a s = checkAcyclic b s :=
  h.checkAcyclic s

/-- non-vacuity (a test, not a theorem about all inputs): a 3-cycle is found, a chain is accepted -/
example : isAcyclic (fun u => if u = 0 then [1] else if u = 1 then [2] else if u = 2 then [0] else []) 3 = .cycle [0, 1, 2, 0] := by decide
example : isAcyclic (fun u => if u = 0 then [1] else if u = 1 then [2] else []) 3 = .ok [2, 1, 0] := by decide

/-- in every reachable container, in every scope, the acyclicity check *decides*: it answers "acyclic" or names a
    cycle; it never indexes outside the scope's graph holder and never exceeds its recursion budget
    (`OB`: recorded orders stay inside the holder they were recorded for, through Provide, its roll-back, Decorate,
    Scope's copy of the parent's holder, Invoke's parse) -/
theorem C05_check_decides (p : Program) (s : Nat) :
    checkAcyclic (runProgram p).1 s = .acyclic ∨ ∃ path, checkAcyclic (runProgram p).1 s = .cycle path :=
  checkAcyclic_decides (program_safeInv p).ob s

/-- no history crashes the process inside dig: no operation of any program ends in a panic of dig's own -/
theorem C05_no_crash (p : Program) : ∀ r ∈ (runProgram p).2, r.v ≠ .panicDig := program_never_panics p

theorem C05_dependency_cycle_is_found (p : Program) (s : Nat) (hs : s < (runProgram p).1.scopes.length) (a : Nat) (l : List Nat)
    (hl : l ≠ []) (hin : ∀ n ∈ a :: l, GNode.ctor n ∈ ((runProgram p).1.scope s).gh)
    (hc : DepChain (runProgram p).1 s (a :: l)) (hclosed : (a :: l).getLast (by simp) = a) :
    ∃ path, checkAcyclic (runProgram p).1 s = .cycle path :=
  cycle_is_found (gt_program p).gm (program_safeInv p).ob s a l hl hin hc hclosed

theorem C05_acyclic_answer_excludes_dependency_cycles (p : Program) (s : Nat) (hs : s < (runProgram p).1.scopes.length)
    (hacyc : checkAcyclic (runProgram p).1 s = .acyclic) (a : Nat) (l : List Nat) (hl : l ≠ [])
    (hin : ∀ n ∈ a :: l, GNode.ctor n ∈ ((runProgram p).1.scope s).gh) (hc : DepChain (runProgram p).1 s (a :: l)) :
    (a :: l).getLast (by simp) ≠ a := by
  intro hclosed
  obtain ⟨path, hp⟩ := C05_dependency_cycle_is_found p s hs a l hl hin hc hclosed
  rw [hp] at hacyc; cases hacyc

theorem C05_provide_closing_a_cycle_fails (p : Program) (hd : p.cfg.deferAcyclic = false) (fn : Fn) (i s : Nat) (o : ProvideOpts)
    (target : Nat) (params : List Param) (results : List RSlot) (n : Nat) (w : St)
    (hreg : provideRegister p.ctx fn (runProgram p).1 i s o = .ok (target, params, results, n, w))
    (sc : Nat) (hsc : sc ∈ (runProgram p).1.subscopes target) (hlt : sc < (runProgram p).1.scopes.length)
    (a : Nat) (l : List Nat) (hl : l ≠ []) (hin : ∀ m ∈ a :: l, GNode.ctor m ∈ (w.scope sc).gh)
    (hc : DepChain w sc (a :: l)) (hclosed : (a :: l).getLast (by simp) = a) :
    ∃ e, (apiProvide p.ctx fn (runProgram p).1 i s o).2.v = .err e ∧ e.isCycleDetected = true ∧
      EqButVerified (runProgram p).1 (apiProvide p.ctx fn (runProgram p).1 i s o).1 :=
  provide_rejects_dependency_cycle (gt_program p) (program_safeInv p).ob p.ctx hd fn i s o target params results n w hreg
    sc hsc a l hl hin hc hclosed

theorem C05_invoke_seeing_a_cycle_fails (p : Program) (fn : Fn) (s : Nat) (info : Bool) (hnf : fn.nonfunc = none)
    (params : List Param) (w : St) (hpp : parseParams p.types (runProgram p).1 s fn = (.ok params, w))
    (hsh : (shallowCheck s params w).1 = .ok ()) (hunv : (w.scope s).verified = false)
    (hs : s < (runProgram p).1.scopes.length) (a : Nat) (l : List Nat) (hl : l ≠ [])
    (hin : ∀ m ∈ a :: l, GNode.ctor m ∈ (w.scope s).gh) (hc : DepChain w s (a :: l))
    (hclosed : (a :: l).getLast (by simp) = a) :
    ∃ e, (apiInvoke p.ctx fn (runProgram p).1 s info).2.v = .err e ∧ e.isCycleDetected = true ∧
      (apiInvoke p.ctx fn (runProgram p).1 s info).2.ev = [] :=
  invoke_rejects_dependency_cycle (gt_program p) (program_safeInv p).ob p.ctx fn s info hnf params w hpp hsh hunv
    a l hl hin hc hclosed

theorem C05_cycle_through_groups_is_found (p : Program) (s : Nat) (a : GNode) (l : List GNode) (hl : l ≠ [])
    (hin : ∀ n, GNode.ctor n ∈ a :: l → GNode.ctor n ∈ ((runProgram p).1.scope s).gh)
    (hc : NodeChain (runProgram p).1 s (a :: l)) (hclosed : (a :: l).getLast (by simp) = a) :
    ∃ path, checkAcyclic (runProgram p).1 s = .cycle path :=
  node_cycle_is_found (gt_program p).gm (program_safeInv p).ob s a l hl
    (chain_nodes_in_holder (pg_program p) s a l hl hc hclosed hin) hc hclosed

theorem C05_holder_edge_is_dependency (p : Program) (s : Nat) (hs : s < (runProgram p).1.scopes.length) (u v : Nat) (x : GNode)
    (hu : ((runProgram p).1.scope s).gh[u]? = some x) (hv : v ∈ edgesFrom (runProgram p).1 s u) :
    ∃ y, ((runProgram p).1.scope s).gh[v]? = some y ∧ NodeDep (runProgram p).1 s x y :=
  edge_is_dependency (gt_program p).gm (pg_program p) s u v x hu hv

theorem C05_reported_cycle_is_a_dependency_cycle (p : Program) (s : Nat) (hs : s < (runProgram p).1.scopes.length)
    (path : List Nat) (h : checkAcyclic (runProgram p).1 s = .cycle path) :
    2 ≤ path.length ∧ path.head? = path.getLast? ∧
    ∀ j u v, path[j]? = some u → path[j + 1]? = some v →
      ∃ x y, ((runProgram p).1.scope s).gh[u]? = some x ∧ ((runProgram p).1.scope s).gh[v]? = some y ∧
        NodeDep (runProgram p).1 s x y :=
  reported_cycle_is_real (gt_program p).gm (pg_program p) s path h

theorem C05_eager_containers_are_acyclic (p : Program) (hd : p.cfg.deferAcyclic = false) (s : Nat)
    (hs : s < (runProgram p).1.scopes.length) :
    checkAcyclic (runProgram p).1 s = .acyclic ∧ NoCycle (runProgram p).1 s := eager_program_acyclic p hd s hs

theorem C05_acyclic_iff_no_dependency_cycle (p : Program) (s : Nat) (hs : s < (runProgram p).1.scopes.length) :
    checkAcyclic (runProgram p).1 s = .acyclic ↔ NoCycle (runProgram p).1 s :=
  acyclic_iff_noCycle (gt_program p).gm (pg_program p) (program_safeInv p).ob s

theorem C05_group_parameter_node (p : Program) (n : Nat) (hn : n < (runProgram p).1.ctors.length) (k : Key) (pg : Nat)
    (hm : (k, pg) ∈ pGroupLeavesL ((runProgram p).1.ctor n).params) (s : Nat) :
    NodeDep (runProgram p).1 s (.ctor n) (.pg pg) ∧
    pgKey (runProgram p).1 pg = { ty := k.ty, name := "", group := k.group } :=
  group_param_node (pg_program p) n hn k pg hm s

/-- every constructor visible from a scope is a node of that scope's holder (whole programs) -/
theorem C05_visible_providers_are_nodes (p : Program) (s : Nat) (hs : s < (runProgram p).1.scopes.length) (k : Key) (m : Nat)
    (hm : m ∈ (runProgram p).1.allProviders s k) : GNode.ctor m ∈ ((runProgram p).1.scope s).gh :=
  (gt_program p).gm.prov s k m hs hm

/-- non-vacuity (a test): a self-dependency is a chain that closes -/
example (st : St) (s n : Nat) (h : DependsOn st s n n) : DepChain st s [n, n] ∧ [n, n].getLast (by simp) = n :=
  ⟨⟨h, trivial⟩, rfl⟩

#print axioms C05_eager_containers_are_acyclic
#print axioms C05_acyclic_iff_no_dependency_cycle
#print axioms C05_holder_edge_is_dependency
#print axioms C05_reported_cycle_is_a_dependency_cycle
#print axioms C05_cycle_through_groups_is_found
#print axioms C05_group_parameter_node
#print axioms C05_provide_closing_a_cycle_fails
#print axioms C05_invoke_seeing_a_cycle_fails
#print axioms C05_dependency_cycle_is_found
#print axioms C05_acyclic_answer_excludes_dependency_cycles
#print axioms C05_visible_providers_are_nodes
#print axioms C05_check_decides
#print axioms C05_no_crash
#print axioms C05_dfs_sound
#print axioms C05_path
#print axioms C05_dfs_total
#print axioms C05_dfs_complete
#print axioms C05_resolver_terminates
#print axioms C05_invoke_total
#print axioms C05_verified_scopes_acyclic
#print axioms C05_provide_accepted_views_acyclic
#print axioms C05_accept_step_keeps_graphs
#print axioms C05_provide_cycle_is_real
#print axioms C05_invoke_cycle_is_real
#print axioms C05_invoke_runs_only_on_acyclic_view
#print axioms C05_check_reads_graph_only
end Dig.C05
