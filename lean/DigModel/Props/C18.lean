import DigModel.Proofs.ProvideShape
import DigModel.Props.C15
/-
  C18 — Introspection reports exactly what was declared.

  The Info structs are the `DotParam` / `DotResult` flattenings of the parsed signature:

  * `C18_single_entry`, `C18_group_entry`: one entry per single dependency (type, name, optional flag) and per
    group dependency (the slice type, the group name);
  * `C18_object_flat`: a parameter object contributes the entries of its fields, in declaration order
    (soft groups included at their declared position — the point of seeded change C18);
  * `C18_as_expanded`, `C18_group_result`: a single result contributes one entry per key it is registered under
    (the As interfaces when given), a grouped result likewise with the group name;
  * `C18_error_omitted`: `error` results contribute nothing; `C18_variadic_omitted`: a variadic parameter is not parsed at all;
  * `C18_rejected_untouched_provide` / `_decorate`: a Provide or Decorate that does not succeed returns no Info;
  * `C18_info_is_parse_provide` / `_decorate` / `_invoke`: a successful call reports exactly `dotParams` / `dotSlots` of
    the parse that was registered (Invoke: of the parameters, under ID 0).
  IDs: `C18_ids_identify_functions`: the reported ID is the function's; distinct IDs for distinct functions is a fact
  about Go code pointers (all equal for reflect-made functions) and is outside the model.
-/
namespace Dig.C18

theorem C18_single_entry (k : Key) (opt : Bool) : dotParam (.single k opt) = [(k.ty, k.name, "", opt)] := by
  simp [dotParam]

theorem C18_group_entry (ty : Nat) (k : Key) (soft : Bool) (pg : Nat) :
    dotParam (.grouped ty k soft pg) = [(ty, "", k.group, false)] := by
  simp [dotParam]

theorem C18_object_flat : ∀ (fs : List Param) (ty : Nat),
    dotParam (.object ty fs) = fs.flatMap dotParam :=
  fun fs ty => (C15.C15_dot_flat ty fs).trans (dotParams_flatMap fs)

theorem C18_as_expanded (slot decl ty : Nat) (name : String) (as : List Nat) :
    dotResult (.single slot decl ty name as) = (ty :: as).map fun t => (t, name, "") := by
  simp [dotResult]

theorem C18_group_result (slot decl ty : Nat) (group : String) (fl : Bool) (as : List Nat) :
    dotResult (.grouped slot decl ty group fl as) = (ty :: as).map fun t => (t, "", group) := by
  simp [dotResult]

theorem C18_error_omitted (rest : List RSlot) : dotSlots (.err :: rest) = dotSlots rest := by
  simp [dotSlots]

theorem C18_error_slot (env : TyEnv) (o : ResultOpts) (slot : Nat) (t : GoT) (rest : List GoT) (h : isErrorT env t = true) :
    newResultListAux env o slot (t :: rest) =
      match newResultListAux env o (slot + leafCount t) rest with
      | .ok rs => .ok (.err :: rs)
      | .error e => .error e := by
  simp only [newResultListAux, h, if_true]
  cases newResultListAux env o (slot + leafCount t) rest <;> rfl

theorem C18_variadic_omitted (env : TyEnv) (fn : Fn) (h : fn.variadic = true) :
    newParamList env fn = newParamListAux env fn.ins.dropLast := C15.C15_variadic env fn h

theorem C18_rejected_untouched_decorate (ctx : Ctx) (fn : Fn) (st : St) (i s : Nat) (cb info : Bool)
    (h : ¬ ((apiDecorate ctx fn st i s cb info).2.v matches .ok)) :
    (apiDecorate ctx fn st i s cb info).2.info = none := by
  revert h
  exact apiDecorate_cases ctx fn st i s cb info (P := fun x => ¬ (x.2.v matches .ok) → x.2.info = none) (fun _ _ => rfl)
    fun _ _ _ _ _ _ _ _ _ h => absurd rfl h

theorem C18_info_is_parse_decorate (ctx : Ctx) (fn : Fn) (st : St) (i s : Nat) (cb : Bool) (inf : InfoOut)
    (h : (apiDecorate ctx fn st i s cb true).2.info = some inf) :
    ∃ params w results, parseParams ctx.env st s fn = (.ok params, w) ∧ newResultList ctx.env {} fn = .ok results ∧
      inf = { id := fn.id, ins := dotParams params, outs := dotSlots results } := by
  revert h
  refine apiDecorate_cases ctx fn st i s cb true (P := fun x => x.2.info = some inf → ∃ params w results,
    parseParams ctx.env st s fn = (.ok params, w) ∧ newResultList ctx.env {} fn = .ok results ∧
      inf = { id := fn.id, ins := dotParams params, outs := dotSlots results }) (fun _ => nofun) ?_
  intro params results _ w hpp _ hr _ _ h
  exact ⟨params, w, results, hpp, hr, (Option.some.inj h).symm⟩

theorem C18_info_is_parse_provide (ctx : Ctx) (fn : Fn) (st : St) (i s : Nat) (o : ProvideOpts) (inf : InfoOut)
    (h : (apiProvide ctx fn st i s o).2.info = some inf) :
    (apiProvide ctx fn st i s o).2.v matches .ok ∧
    ∃ as params w results, validateOpts ctx.env o = .ok as ∧
      parseParams ctx.env st (if o.export_ then St.root else s) fn = (.ok params, w) ∧
      newResultList ctx.env { name := o.name, group := o.group, as := as } fn = .ok results ∧
      inf = { id := fn.id, ins := dotParams params, outs := dotSlots results } := by
  revert h
  refine apiProvide_res_cases (P := fun r => r.info = some inf → (r.v matches .ok) ∧ ∃ as params w results,
    validateOpts ctx.env o = .ok as ∧
    parseParams ctx.env st (if o.export_ then St.root else s) fn = (.ok params, w) ∧
    newResultList ctx.env { name := o.name, group := o.group, as := as } fn = .ok results ∧
    inf = { id := fn.id, ins := dotParams params, outs := dotSlots results }) (fun _ => nofun) nofun ?_
  intro as params w results hv hpp hr h
  split at h
  · exact ⟨rfl, as, params, w, results, hv, hpp, hr, (Option.some.inj h).symm⟩
  · cases h

/-- a Provide that is not accepted leaves the Info struct alone -/
theorem C18_rejected_untouched_provide (ctx : Ctx) (fn : Fn) (st : St) (i s : Nat) (o : ProvideOpts)
    (h : ¬ ((apiProvide ctx fn st i s o).2.v matches .ok)) : (apiProvide ctx fn st i s o).2.info = none := by
  cases hinfo : (apiProvide ctx fn st i s o).2.info with
  | none => rfl
  | some inf => exact absurd (C18_info_is_parse_provide ctx fn st i s o inf hinfo).1 h

theorem C18_info_is_parse_invoke (ctx : Ctx) (fn : Fn) (st : St) (s : Nat) (info : Bool) (inf : InfoOut)
    (h : (apiInvoke ctx fn st s info).2.info = some inf) :
    ∃ params w, parseParams ctx.env st s fn = (.ok params, w) ∧ inf = { id := 0, ins := dotParams params, outs := [] } := by
  revert h
  refine apiInvoke_cases (P := fun x => x.2.info = some inf → ∃ params w,
    parseParams ctx.env st s fn = (.ok params, w) ∧ inf = { id := 0, ins := dotParams params, outs := [] })
    (fun _ _ => nofun) (fun _ _ _ _ => nofun) (fun _ _ _ _ _ _ _ => nofun) (fun _ _ _ _ _ _ _ => nofun) ?_
  intro _ params w w3 hpp _ _ h
  exact ⟨params, w, hpp, invokeRun_info h⟩

/-- "constructors backed by distinct functions receive distinct IDs, and the same function always the same ID": the ID
    reported for an accepted Provide is that of the function given, whatever the container, scope and options
    (`dot.CtorID` is the function's code pointer: the tie is the generated-source mode M2, where functions are distinct) -/
theorem C18_ids_identify_functions (ctx ctx' : Ctx) (fn fn' : Fn) (st st' : St) (i i' s s' : Nat) (o o' : ProvideOpts)
    (inf inf' : InfoOut) (h : (apiProvide ctx fn st i s o).2.info = some inf)
    (h' : (apiProvide ctx' fn' st' i' s' o').2.info = some inf') : inf.id = inf'.id ↔ fn.id = fn'.id := by
  obtain ⟨_, _, _, _, _, _, _, _, e⟩ := C18_info_is_parse_provide ctx fn st i s o inf h
  obtain ⟨_, _, _, _, _, _, _, _, e'⟩ := C18_info_is_parse_provide ctx' fn' st' i' s' o' inf' h'
  rw [e, e']

#print axioms C18_single_entry
#print axioms C18_ids_identify_functions
#print axioms C18_info_is_parse_provide
#print axioms C18_rejected_untouched_provide
#print axioms C18_info_is_parse_invoke
#print axioms C18_group_entry
#print axioms C18_object_flat
#print axioms C18_as_expanded
#print axioms C18_group_result
#print axioms C18_error_omitted
#print axioms C18_error_slot
#print axioms C18_variadic_omitted
#print axioms C18_rejected_untouched_decorate
#print axioms C18_info_is_parse_decorate
end Dig.C18
