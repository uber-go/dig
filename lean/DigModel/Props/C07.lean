import DigModel.Proofs.Retry
import DigModel.Proofs.ProvApi
import DigModel.Proofs.RootCauseProgram
import DigModel.Proofs.ValErr
import DigModel.Proofs.ValErrProgram
/-
  C07 — Failed executions contribute nothing and are retried.

  * `C07_failed_writes_nothing`: when the function of a constructor (decorator) returns an error or
    panics, running it changes no cache, no flag and no registry entry of any scope: the state differs
    only by the log, the clock and the execution counter.  (With the repair of F5 this holds for
    decorators too: `ExtractList` looks for the error before extracting anything.)
  * `C07_retry_ctor`: a constructor call that ends with an error or a panic — its own function failed,
    or one of its arguments could not be built — leaves the constructor not built and off the stack,
    so (C02_cached / C02_noreentry do not apply) the next demand executes it again.
  * `C07_retry_deco`: likewise a failing decorator call leaves the decorator `ready` (repair of F4),
    so look-ups find it again instead of skipping it.
  * what the failing call hands upwards is `C13_ctor_outcome`, `C13_deco_outcome` (Props/C13).
  * `C07_others_kept`: nodes being built are untouched and built nodes stay built during any resolver
    call, failing or not (frame part of the flag discipline).
  * `C07_failed_never_delivered` (whole programs): in the history of any operation sequence, if execution
    `x` of function `f` ended with an error or a panic, then no value stemming from that execution is ever
    handed to any user function as (part of) an argument — before or after, in any scope, through single
    values, groups, decorated values or parameter objects.  (Invariants `Prov`: every token in a cache or in
    an argument comes from an execution with a successful exit *earlier* in the history; `ExecInv`: an
    execution number ends at most once.)
  * `C07_failed_never_cached`: nor does such a value sit in any cache of any scope at the end.
-/
namespace Dig.C07

theorem C07_failed_writes_nothing (ctx : Ctx) (n : Nat) (node : CtorNode) (args : List Val) (st : St) (e : Fail)
    (h : (ctorTail ctx n node args st).1 = .error e) :
    (ctorTail ctx n node args st).2.scopes = st.scopes ∧ (ctorTail ctx n node args st).2.ctors = st.ctors ∧
    (ctorTail ctx n node args st).2.decos = st.decos ∧ (ctorTail ctx n node args st).2.pgs = st.pgs := by
  have hnc : (callBody ctx (.ctor n) node.fn args st).1.commits = false := by
    cases hc : (callBody ctx (.ctor n) node.fn args st).1.commits with
    | false => rfl
    | true =>
      obtain ⟨u, hu⟩ := (ctorOutcome_ok_iff ctx node.fn.id _).mpr hc
      simp only [ctorTail] at h
      rw [hu] at h; cases h
  obtain ⟨hc, hs, _⟩ := ctorTail_not_commits ctx n node args st hnc
  exact ⟨hs, hc, ctorTail_decos ctx n node args st, (regFrame_ctorTail ctx st n node args).pgs.symm⟩

theorem C07_failed_deco_writes_nothing (ctx : Ctx) (d : Nat) (node : DecoNode) (args : List Val) (st : St) (e : Fail)
    (h : (decoTail ctx d node args st).1 = .error e) :
    (decoTail ctx d node args st).2.scopes = st.scopes ∧ (decoTail ctx d node args st).2.ctors = st.ctors ∧
    (decoTail ctx d node args st).2.decos = st.decos ∧ (decoTail ctx d node args st).2.pgs = st.pgs := by
  have hnc : (callBody ctx (.deco d) node.fn args st).1.commits = false := by
    cases hc : (callBody ctx (.deco d) node.fn args st).1.commits with
    | false => rfl
    | true =>
      obtain ⟨u, hu⟩ := (decoOutcome_ok_iff ctx node.fn.id _).mpr hc
      simp only [decoTail] at h
      rw [hu] at h; cases h
  obtain ⟨hd, hs, _⟩ := decoTail_not_commits ctx d node args st hnc
  exact ⟨hs, decoTail_ctors ctx d node args st, hd, (regFrame_decoTail ctx st d node args).pgs.symm⟩

theorem C07_retry_ctor (ctx : Ctx) (L L' fuel n c : Nat) (hn : n < L) (st : St) (hv : VL L L' st)
    (hc : (st.ctor n).called = false) (ho : (st.ctor n).onStack = false) (e : Fail)
    (he : (callCtor ctx (fuel + 1) n c st).1 = .error e) :
    ((callCtor ctx (fuel + 1) n c st).2.ctor n).called = false ∧
    ((callCtor ctx (fuel + 1) n c st).2.ctor n).onStack = false :=
  callCtor_fail ctx L L' fuel n c hn st hv hc ho e he

theorem C07_retry_deco (ctx : Ctx) (L L' fuel d c : Nat) (hd : d < L') (st : St) (hv : VL L L' st)
    (hs : (st.deco d).state = .ready) (e : Fail)
    (he : (callDeco ctx (fuel + 1) d c st).1 = .error e) :
    ((callDeco ctx (fuel + 1) d c st).2.deco d).state = .ready :=
  callDeco_fail ctx L L' fuel d c hd st hv hs e he

theorem C07_others_kept (ctx : Ctx) (L L' fuel : Nat) (ps : List Param) (c : Nat) (st : St) (hv : VL L L' st) :
    (∀ n, (st.ctor n).onStack = true → (buildList ctx fuel ps c st).2.ctor n = st.ctor n) ∧
    (∀ d, (st.deco d).state = .onStack → (buildList ctx fuel ps c st).2.deco d = st.deco d) ∧
    (∀ n, (st.ctor n).called = true → ((buildList ctx fuel ps c st).2.ctor n).called = true) :=
  have h := (engine_flags ctx L L' fuel).2.2.2.2.2 ps c st hv
  ⟨h.ctorFrame, h.decoFrame, h.ctorMono⟩

theorem C07_failed_never_delivered (p : Program) (w : Who) (f x : Nat) (r : ExitKind) (hr : r ≠ .ok)
    (hfail : Event.exit w f x r ∈ (runProgram p).1.hist)
    (i : Nat) (w' : Who) (g y : Nat) (args : List Val)
    (hent : (runProgram p).1.hist[i]? = some (.enter w' g y args)) :
    ∀ a ∈ args, (f, x) ∉ a.toks := by
  intro a ha hmem
  obtain ⟨w2, _, hok⟩ := (prov_program p).args i w' g y args hent a ha (f, x) hmem
  exact (execInv_program p).failed_not_ok w f x r hr hfail w2 (List.mem_of_mem_take hok)

private theorem not_cached {st : St} (hp : Prov st) {f x : Nat} (hx : ∀ w, Event.exit w f x .ok ∉ st.hist) (s : Nat) (k : Key) :
    (∀ v, aget (st.scope s).values k = some v → (f, x) ∉ v.toks) ∧
    (∀ v, aget (st.scope s).decoratedValues k = some v → (f, x) ∉ v.toks) ∧
    (∀ v, v ∈ agetL (st.scope s).groups k → (f, x) ∉ v.toks) ∧
    (∀ v, aget (st.scope s).decoratedGroups k = some v → (f, x) ∉ v.toks) := by
  have hs := hp.scopes s
  refine ⟨?_, ?_, ?_, ?_⟩
  · intro v hv hm; obtain ⟨w2, _, hok⟩ := hs.values k v hv (f, x) hm; exact hx w2 hok
  · intro v hv hm; obtain ⟨w2, _, hok⟩ := hs.dvalues k v hv (f, x) hm; exact hx w2 hok
  · intro v hv hm; obtain ⟨w2, _, hok⟩ := hs.groups k v hv (f, x) hm; exact hx w2 hok
  · intro v hv hm; obtain ⟨w2, _, hok⟩ := hs.dgroups k v hv (f, x) hm; exact hx w2 hok

theorem C07_failed_never_cached (p : Program) (w : Who) (f x : Nat) (r : ExitKind) (hr : r ≠ .ok)
    (hfail : Event.exit w f x r ∈ (runProgram p).1.hist) (s : Nat) (k : Key) :
    (∀ v, aget ((runProgram p).1.scope s).values k = some v → (f, x) ∉ v.toks) ∧
    (∀ v, aget ((runProgram p).1.scope s).decoratedValues k = some v → (f, x) ∉ v.toks) ∧
    (∀ v, v ∈ agetL ((runProgram p).1.scope s).groups k → (f, x) ∉ v.toks) ∧
    (∀ v, aget ((runProgram p).1.scope s).decoratedGroups k = some v → (f, x) ∉ v.toks) :=
  not_cached (prov_program p) ((execInv_program p).failed_not_ok w f x r hr hfail) s k

/-- non-vacuity: a value made by an execution does carry that execution's token -/
example : (7, 3) ∈ (Val.sl [Val.tok 7 3 0 0, Val.zero 5]).toks := by decide

/-- whole programs: the first failing execution of a constructor or decorator during an operation is the last thing
    that runs (only callback events follow), there is no second failure, and it is the root cause the operation
    reports (`engine_root`, see Props/C13) -/
theorem C07_first_failure_is_reported (p : Program) : ∀ r ∈ (runProgram p).2, r.v ≠ .panicDig → r.v ≠ .fuel → Reported p.ctx r :=
  runOps_reported p.ctx p.fns p.ops

/-- a result of a *value* type that implements `error` (a struct with a value-receiver `Error` method) is never a nil
    interface: in any program (functions named uniquely by their ids), **a function that declares such a result never
    completes successfully**, whatever its script says — its body never returns `ok` and its exit event never reads
    `ok`; by `C07_failed_never_delivered` nothing it returns is ever handed to anyone.  (DryRun containers excepted:
    there the model is not used, DESIGN §12.) -/
theorem C07_value_typed_error_never_succeeds (p : Program) (fn : Fn) (hmem : fn ∈ p.fns)
    (huniq : ∀ g ∈ p.fns, g.id = fn.id → g = fn) (hv : (forcedOf p.types fn).isSome = true) (st : St) :
    (∀ x len, bodyRes p.ctx fn st ≠ .ok x len) ∧ exitKind p.ctx fn (p.ctx.beh fn.id (st.execCount fn.id)) ≠ .ok :=
  valErr_never_ok p fn hmem huniq hv st

/-- ... and what its failing costs: a constructor whose function has such a result **always fails, is never marked as
    called and writes to no cache** — so every demand runs it again (the retry half of C07 with nothing to wait for) -/
theorem C07_value_typed_error_constructor_writes_nothing (p : Program) (fn : Fn) (hmem : fn ∈ p.fns)
    (huniq : ∀ g ∈ p.fns, g.id = fn.id → g = fn) (hv : (forcedOf p.types fn).isSome = true) (hnd : p.cfg.dry = false)
    (n : Nat) (node : CtorNode) (hfn : node.fn = fn) (args : List Val) (st : St) :
    (ctorTail p.ctx n node args st).2.ctors = st.ctors ∧ (ctorTail p.ctx n node args st).2.scopes = st.scopes ∧
    ∃ e, (ctorTail p.ctx n node args st).1 = .error e :=
  valErr_ctorTail_writes_nothing p fn hmem huniq hv hnd n node hfn args st

/-- the same for a decorator: it always fails, is never marked as called and writes no decorated value — the key stays
    undecorated and every demand runs the decorator again -/
theorem C07_value_typed_error_decorator_writes_nothing (p : Program) (fn : Fn) (hmem : fn ∈ p.fns)
    (huniq : ∀ g ∈ p.fns, g.id = fn.id → g = fn) (hv : (forcedOf p.types fn).isSome = true) (hnd : p.cfg.dry = false)
    (d : Nat) (node : DecoNode) (hfn : node.fn = fn) (args : List Val) (st : St) :
    (decoTail p.ctx d node args st).2.decos = st.decos ∧ (decoTail p.ctx d node args st).2.scopes = st.scopes ∧
    ∃ e, (decoTail p.ctx d node args st).1 = .error e :=
  valErr_decoTail_writes_nothing p fn hmem huniq hv hnd d node hfn args st

/-- ... and for whole programs: **nothing a function with a value-typed error result returns is ever handed to any user
    function** (as an argument or part of one, in any scope, through single values, groups, decorated values or
    parameter objects), **nor does it sit in any cache at the end** — in every history, none of its executions has a
    successful exit (`ve_program`, an invariant of `step` carried through the six resolver functions: every node
    carries a function of the program, ids name functions uniquely, and `C07_value_typed_error_never_succeeds`);
    the rest is `Prov`.  Function ids are positive (0 is the id of the default node the model reads out of range). -/
theorem C07_value_typed_error_results_never_delivered (p : Program) (fn : Fn) (hmem : fn ∈ p.fns)
    (huniq : ∀ g ∈ p.fns, g.id = fn.id → g = fn) (hv : (forcedOf p.types fn).isSome = true) (hid : fn.id ≠ 0) :
    (∀ w x, Event.exit w fn.id x .ok ∉ (runProgram p).1.hist) ∧
    (∀ (i : Nat) (w' : Who) (g y : Nat) (args : List Val), (runProgram p).1.hist[i]? = some (.enter w' g y args) →
      ∀ a ∈ args, ∀ x, (fn.id, x) ∉ a.toks) ∧
    (∀ (s : Nat) (k : Key) (x : Nat),
      (∀ v, aget ((runProgram p).1.scope s).values k = some v → (fn.id, x) ∉ v.toks) ∧
      (∀ v, aget ((runProgram p).1.scope s).decoratedValues k = some v → (fn.id, x) ∉ v.toks) ∧
      (∀ v, v ∈ agetL ((runProgram p).1.scope s).groups k → (fn.id, x) ∉ v.toks) ∧
      (∀ v, aget ((runProgram p).1.scope s).decoratedGroups k = some v → (fn.id, x) ∉ v.toks)) := by
  have hve := ve_program p fn hmem huniq hv hid
  refine ⟨hve.nook, ?_, ?_⟩
  · intro i w' g y args hent a ha x hm
    obtain ⟨w2, _, hok⟩ := (prov_program p).args i w' g y args hent a ha (fn.id, x) hm
    exact hve.nook w2 x (List.mem_of_mem_take hok)
  · exact fun s k x => not_cached (prov_program p) (fun w => hve.nook w x) s k

/-- non-vacuity (a test): `func() (*T1, VErr)` with `VErr` a struct type that implements `error` has a forced entry;
    `func() (*T1, error)` has none -/
example : (forcedOf [{ id := 0, kind := .iface, elem := none, impl := [], isErr := true },
      { id := 11, kind := .ptr, elem := none, impl := [], isErr := false },
      { id := 25, kind := .struct, elem := none, impl := [], isErr := true }]
    { id := 1, name := "f", nonfunc := none, ins := [], variadic := false, outs := [.univ 11, .univ 25] }).isSome = true ∧
  (forcedOf [{ id := 0, kind := .iface, elem := none, impl := [], isErr := true },
      { id := 11, kind := .ptr, elem := none, impl := [], isErr := false }]
    { id := 1, name := "f", nonfunc := none, ins := [], variadic := false, outs := [.univ 11, .univ 0] }).isSome = false := by
  decide

/-- non-vacuity: a program that meets the hypotheses — `f : func() (*T1, VErr)` provided, `g : func(*T1)` invoked — and
    what the model answers for it (a *test*, run by the evaluator): the Invoke fails with `f`'s error as root cause
    although `f`'s script says nothing -/
def veTypes : List TypeInfo :=
  [{ id := 0, kind := .iface, elem := none, impl := [], isErr := true },
   { id := 11, kind := .ptr, elem := none, impl := [], isErr := false },
   { id := 25, kind := .struct, elem := none, impl := [], isErr := true }]
def veF : Fn := { id := 1, name := "f", nonfunc := none, ins := [], variadic := false, outs := [.univ 11, .univ 25] }
def veG : Fn := { id := 2, name := "g", nonfunc := none, ins := [.univ 11], variadic := false, outs := [] }
def veProg : Program :=
  { cfg := {}, types := veTypes, fns := [veF, veG], script := [], ops := [.provide 0 1 {}, .invoke 0 2 false] }
example : veF ∈ veProg.fns ∧ (∀ g ∈ veProg.fns, g.id = veF.id → g = veF) ∧ (forcedOf veProg.types veF).isSome = true ∧
    veF.id ≠ 0 := by
  refine ⟨by simp [veProg], ?_, by decide, by decide⟩
  intro g hg hid
  simp only [veProg, List.mem_cons, List.mem_nil_iff, or_false] at hg
  rcases hg with rfl | rfl
  · rfl
  · exact absurd hid (by decide)
#guard ((runProgram veProg).2.map fun r => match r.v with | .ok => 0 | .err e => (match e.rootCause with | .user 1 0 => 2 | _ => 1) | _ => 3) == [0, 2]

#print axioms C07_first_failure_is_reported
#print axioms C07_failed_writes_nothing
#print axioms C07_failed_never_delivered
#print axioms C07_failed_never_cached
#print axioms C07_failed_deco_writes_nothing
#print axioms C07_retry_ctor
#print axioms C07_retry_deco
#print axioms C07_others_kept
#print axioms C07_value_typed_error_never_succeeds
#print axioms C07_value_typed_error_results_never_delivered
#print axioms C07_value_typed_error_constructor_writes_nothing
#print axioms C07_value_typed_error_decorator_writes_nothing
end Dig.C07
