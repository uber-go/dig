import DigModel.Proofs.Retry
import DigModel.Proofs.History
import DigModel.Proofs.Shape
import DigModel.Proofs.Stable
/-
  C02 — Singletons: a successful constructor or decorator never runs twice.

  Proved for every call of the resolver (`buildList`, i.e. the argument building of any Invoke),
  from any state whose provider / decorator tables mention existing nodes only (`VL`), for any
  fuel, behaviour script and configuration, whatever the outcome (value, error, panic):

  * `C02_once`: the events appended by the call contain at most one successful execution of each
    constructor and of each decorator; a node that was built before the call, or that is being
    built (on the stack), is not executed successfully at all; a node that is executed successfully
    is marked built afterwards;
  * `C02_built_stays_built`: the built marks only grow, and the on-stack marks are exactly restored;
  * `C02_cached`, `C02_noreentry`: a built constructor is a no-op; a constructor demanded while its own
    arguments are being built is not entered — it yields a cycle error (repair of F8/F9).
  * `C02_once_history` (whole histories, full strength): for every program — every configuration, type
    universe, set of functions, behaviour script and every finite sequence of Scope / Provide / Decorate /
    Invoke / Visualize / String operations, accepted or rejected, failing or not — every constructor
    node and every decorator node has at most ONE successful execution in the entire history; a node that
    has one is marked built (so by C02_cached it is never entered again), and between two operations no
    node is left on the stack.  It is the invariant `HInv` of the API step function (`HInv.step`), proved
    through the undo of rejected Provides (Rollback), the parse frame (Parse) and the flag discipline of the
    resolver (Flags).  "Identical instance" is token equality: with one successful execution per node
    there is one token per result slot.
  * `C02_identical_instance` (whole histories, full strength, non-DryRun): once a single value is cached under
    key `k` in scope `S`, **every continuation of the history** — any further Scope / Provide / Decorate / Invoke,
    accepted or not, failing or not — leaves exactly that value cached there: no later execution replaces it, so
    every consumer that resolves `k` through that scope's cache receives the identical instance.  Proof: the
    only writer of `values[S][k]` is a successful execution of a constructor of `S` that declares `k` (`Wr`,
    through the resolver by `engine_pres2`); that constructor is unique (`RegInv`: duplicates are rejected), it is
    marked built when the value is written (`Just`), and a built constructor has no further successful
    execution (`Flags`).
-/
namespace Dig.C02

theorem C02_once (ctx : Ctx) (L L' fuel : Nat) (ps : List Param) (c : Nat) (st : St) (hv : VL L L' st) :
    ∃ l, (buildList ctx fuel ps c st).2.hist = st.hist ++ l ∧
      (∀ n, okExits (.ctor n) l ≤ 1 ∧
            ((st.ctor n).called = true → okExits (.ctor n) l = 0) ∧
            ((st.ctor n).onStack = true → okExits (.ctor n) l = 0) ∧
            (okExits (.ctor n) l = 1 → ((buildList ctx fuel ps c st).2.ctor n).called = true)) ∧
      (∀ d, okExits (.deco d) l ≤ 1 ∧
            ((st.deco d).state = .called → okExits (.deco d) l = 0) ∧
            ((st.deco d).state = .onStack → okExits (.deco d) l = 0) ∧
            (okExits (.deco d) l = 1 → ((buildList ctx fuel ps c st).2.deco d).state = .called)) := by
  obtain ⟨l, h1, _, h3, h4⟩ := ((engine_flags ctx L L' fuel).2.2.2.2.2 ps c st hv).ext
  exact ⟨l, h1, h3, h4⟩

theorem C02_built_stays_built (ctx : Ctx) (L L' fuel : Nat) (ps : List Param) (c : Nat) (st : St) (hv : VL L L' st) :
    (∀ n, (st.ctor n).called = true → ((buildList ctx fuel ps c st).2.ctor n).called = true) ∧
    (∀ d, (st.deco d).state = .called → ((buildList ctx fuel ps c st).2.deco d).state = .called) ∧
    (∀ n, ((buildList ctx fuel ps c st).2.ctor n).onStack = (st.ctor n).onStack) ∧
    (∀ d, ((buildList ctx fuel ps c st).2.deco d).state = .onStack ↔ (st.deco d).state = .onStack) :=
  have h := (engine_flags ctx L L' fuel).2.2.2.2.2 ps c st hv
  ⟨h.ctorMono, h.decoMono, h.ctorBal, h.decoBal⟩

theorem C02_cached (ctx : Ctx) (fuel n c : Nat) (st : St) (h : (st.ctor n).called = true) :
    callCtor ctx (fuel + 1) n c st = (.ok (), st) := by
  rw [callCtor_succ, if_pos h]

theorem C02_noreentry (ctx : Ctx) (fuel n c : Nat) (st : St) (h0 : (st.ctor n).called = false)
    (h : (st.ctor n).onStack = true) :
    callCtor ctx (fuel + 1) n c st = (.error (.err (.cycle [n] (st.ctor n).s)), st) := by
  rw [callCtor_succ, if_neg (by simp [h0]), if_pos h]

theorem C02_deco_cached (ctx : Ctx) (fuel d s : Nat) (st : St) (h : (st.deco d).state = .called) :
    callDeco ctx (fuel + 1) d s st = (.ok (), st) := by
  rw [callDeco_succ, if_pos (by simp [h])]

theorem C02_once_history (p : Program) :
    (∀ n, okExits (.ctor n) (runProgram p).1.hist ≤ 1 ∧
          (okExits (.ctor n) (runProgram p).1.hist = 1 → ((runProgram p).1.ctor n).called = true) ∧
          ((runProgram p).1.ctor n).onStack = false) ∧
    (∀ d, okExits (.deco d) (runProgram p).1.hist ≤ 1 ∧
          (okExits (.deco d) (runProgram p).1.hist = 1 → ((runProgram p).1.deco d).state = .called) ∧
          ((runProgram p).1.deco d).state ≠ .onStack) := by
  have h := HInv.runOps p.ctx p.fns p.ops 0 {} [] HInv.init
  exact ⟨fun n => ⟨(h.ctorOnce n).1, (h.ctorOnce n).2, h.ctorIdle n⟩,
         fun d => ⟨(h.decoOnce d).1, (h.decoOnce d).2, h.decoIdle d⟩⟩

/-- the same for every intermediate state: the invariant is preserved by each operation -/
theorem C02_step_invariant (ctx : Ctx) (fns : List Fn) (st : St) (i : Nat) (op : Op) (h : HInv st) :
    HInv (step ctx fns st i op).1 := h.step ctx fns i op

/-- non-vacuity (test): the empty container satisfies the hypothesis -/
example : VL 0 0 ({} : St) := ⟨⟨fun s k n h => by simp [St.scope, agetL] at h; cases s <;> simp [aget] at h,
  fun s k d h => by cases s <;> simp [St.scope, aget] at h⟩, rfl, rfl⟩

/-- executions never nest: in the events of any Invoke an enter event is directly followed by the exit event
    of the same execution (dig builds every argument before it enters a function) -/
theorem C02_no_nesting (ctx : Ctx) (fn : Fn) (st : St) (s : Nat) (info : Bool) (hlog : st.log = [])
    (i : Nat) (w : Who) (f x : Nat) (args : List Val)
    (h : (apiInvoke ctx fn st s info).2.ev[i]? = some (.enter w f x args)) :
    ∃ r, (apiInvoke ctx fn st s info).2.ev[i + 1]? = some (.exit w f x r) := by
  obtain ⟨l, t, he, hb, ht, _⟩ := apiInvoke_shape ctx fn st s info hlog
  rw [he] at h ⊢
  refine hb.noNesting_append ?_ i w f x args h
  rcases ht with rfl | ⟨_, x', args', r, rfl⟩
  · exact .nil
  · exact NoNesting.nil.enter_exit _ _ _ _ _

/-- a value found in a scope's cache after the operations `ops1` is still there, unchanged, after any further
    operations `ops2` -/
theorem C02_identical_instance (ctx : Ctx) (hnd : ctx.cfg.dry = false) (fns : List Fn) (ops1 ops2 : List Op)
    (acc : List OpRes) (S : Nat) (k : Key) (v : Val)
    (h : aget ((runOps ctx fns ops1 0 {} []).1.scope S).values k = some v) :
    aget ((runOps ctx fns ops2 ops1.length (runOps ctx fns ops1 0 {} []).1 acc).1.scope S).values k = some v :=
  stable_runOps ctx hnd fns ops2 ops1.length _ acc
    (Just.runOps ctx fns ops1 0 {} [] (Just.init ctx.env))
    (RegInv.runOps ctx fns ops1 0 {} [] RegInv.init)
    (HInv.runOps ctx fns ops1 0 {} [] HInv.init) S k v h

#print axioms C02_once
#print axioms C02_identical_instance
#print axioms C02_once_history
#print axioms C02_step_invariant
#print axioms C02_built_stays_built
#print axioms C02_cached
#print axioms C02_noreentry
#print axioms C02_deco_cached
#print axioms C02_no_nesting
end Dig.C02
