import DigModel.Proofs.Lookup
import DigModel.Proofs.ApiLemmas
import DigModel.Proofs.Shape
import DigModel.Proofs.ProvApi
import DigModel.Proofs.JustApi
import DigModel.Proofs.RegOKApi
/-
  C01 — Injected values are exactly the registered constructors' outputs (resolution rule).

  What `paramSingle.Build` delivers, for every state, key, scope and outcome of the nested calls:

  * `C01_decorator_wins`: if some scope on the path to the root has a decorator for the key that is not
    currently running, the *nearest* such decorator `d` (scope `ds`) is called and the value delivered is
    what `d` left as decorated value in `ds` — never a provider's value, cached or not;
  * `C01_decorated_cache`: otherwise a decorated value cached on the path (nearest first) is delivered;
  * `C01_cached_value`: otherwise the cached value of the nearest scope that has a value or a provider;
  * `C01_provided`: otherwise the providers of the nearest providing scope `pc` are called (each from its
    own origin scope) and the value delivered is `pc`'s cached value afterwards, or — only for an optional
    parameter — the zero value;
  * `C01_nothing`: with no provider on the path: zero value for an optional parameter, `errMissingTypes`
    for a required one, and nothing happens to the state;
  * `C01_invoked_once`: a successful Invoke entered the invoked function exactly once, as the last thing it did.
  * `C01_args_from_successful_executions` (whole programs, invariant `Prov`): every token that occurs in an
    argument of any execution of any user function (constructor, decorator or invoked function) was returned
    by an execution run for a constructor or decorator node that had **exited successfully earlier in the
    history** — never by the invoked function, by a failed execution, or by one that has not finished.
  * `C01_cached_value_justified` (whole programs, invariant `Just`): in every reachable container, a value cached
    under the single key `k` (type + name) in scope `S` is exactly what a successful execution of a constructor
    `n` returned in the result slot that **declares `k`** (directly, through a result object, a name tag or an
    `As` interface), where `n` is registered with home scope `S` (the root for exported constructors), is marked
    built, and that execution's successful exit is in the history (in a DryRun container: the zero value of the
    declared type).  Together with the resolution rule above (which says *which* scope's cache or providers
    answer a request) this is "the value returned by the constructor registered for that type and name in
    the nearest enclosing scope".
    `C01_cached_value_from_the_registered_provider` adds (invariant `RegInv`): that constructor is listed in
    `providers[S][k]` and is the only constructor listed there that declares `k`.
  Still carried by the correspondence check only: the same justification for value-group members and decorated
  values (their provenance is `C01_args_from_successful_executions`).
-/
namespace Dig.C01

theorem C01_decorator_wins (ctx : Ctx) (fuel : Nat) (k : Key) (opt : Bool) (c : Nat) (st : St) (d ds : Nat)
    (h : findDeco st k (st.ancestors c) = some (d, ds)) :
    (∀ v st', buildSingle ctx (fuel + 1) k opt c st = (.ok v, st') →
        st' = (callDeco ctx fuel d ds st).2 ∧ aget (st'.scope ds).decoratedValues k = some v) ∧
    (∀ e st', buildSingle ctx (fuel + 1) k opt c st = (.error (.err e), st') →
        ∃ e', e = .paramSingle k 1 e') := by
  rw [buildSingle_succ]
  simp only [h]
  constructor
  · intro v st' hv
    obtain ⟨_, s1, h1, h2⟩ := bind_eq_ok hv
    have e1 : s1 = (callDeco ctx fuel d ds st).2 := congrArg Prod.snd (wrapErr_ok _ h1).symm
    split at h2
    · next hl => cases h2; exact ⟨e1, hl⟩
    · cases h2
  · -- the decorator's own error is wrapped; the read of the decorated value fails with `bug` only
    refine fun e st' hv => Sat.error (Q := fun _ _ => True)
      (E := fun f _ => ∀ e, f = .err e → ∃ e', e = .paramSingle k 1 e') ?_ hv e rfl
    refine bind_sat (wrapErr_sat (sat_state (I := fun _ => True) |>.2 trivial) fun f _ _ e he => ?_)
      fun _ s1 _ => ?_
    · cases f with
      | err e0 => exact ⟨e0, (Fail.err.inj he).symm⟩
      | _ => nomatch he
    · split
      · trivial
      · exact fun _ he => nomatch he

theorem C01_decorated_cache (ctx : Ctx) (fuel : Nat) (k : Key) (opt : Bool) (c : Nat) (st : St) (v : Val)
    (h1 : findDeco st k (st.ancestors c) = none) (h2 : findDecoratedValue st k (st.ancestors c) = some v) :
    buildSingle ctx (fuel + 1) k opt c st = (.ok v, st) := by
  simp only [buildSingle, h1, h2]

theorem C01_cached_value (ctx : Ctx) (fuel : Nat) (k : Key) (opt : Bool) (c : Nat) (st : St) (v : Val)
    (h1 : findDeco st k (st.ancestors c) = none) (h2 : findDecoratedValue st k (st.ancestors c) = none)
    (h3 : findProviders st k (st.ancestors c) = .value v) :
    buildSingle ctx (fuel + 1) k opt c st = (.ok v, st) ∧
    ∃ pre s post, st.ancestors c = pre ++ s :: post ∧ aget (st.scope s).values k = some v ∧
      ∀ s' ∈ pre, aget (st.scope s').values k = none ∧ agetL (st.scope s').providers k = [] := by
  refine ⟨by simp only [buildSingle, h1, h2, h3], findProviders_value st k _ v h3⟩

theorem C01_provided (ctx : Ctx) (fuel : Nat) (k : Key) (opt : Bool) (c : Nat) (st : St) (pc : Nat) (ns : List Nat)
    (h1 : findDeco st k (st.ancestors c) = none) (h2 : findDecoratedValue st k (st.ancestors c) = none)
    (h3 : findProviders st k (st.ancestors c) = .providers pc ns) (v : Val) (st' : St)
    (h : buildSingle ctx (fuel + 1) k opt c st = (.ok v, st')) :
    (aget (st'.scope pc).values k = some v ∨ (opt = true ∧ v = zeroVal ctx.env k.ty)) ∧
    (∃ pre post, st.ancestors c = pre ++ pc :: post ∧ ns = agetL (st.scope pc).providers k ∧ ns ≠ [] ∧
      aget (st.scope pc).values k = none ∧
      ∀ s' ∈ pre, aget (st.scope s').values k = none ∧ agetL (st.scope s').providers k = []) := by
  refine ⟨?_, findProviders_provs st k _ pc ns h3⟩
  rw [buildSingle_succ] at h
  simp only [h1, h2, h3] at h
  obtain ⟨early, s1, hf, h⟩ := bind_eq_ok h
  -- the early-exit value can only be the zero value of an optional parameter
  have hzero : Sat (firstM ns (fun n st1 => providerStep ctx.env k opt (ctorId ctx.sameIds (st1.ctor n).fn)
      (callCtor ctx fuel n (st1.ctor n).origS st1)) st)
      (fun o _ => ∀ z, o = some z → opt = true ∧ z = zeroVal ctx.env k.ty) (fun _ _ => True) :=
    firstM_sat ns (I := fun _ _ => True) trivial
      (fun _ n _ _ s0 _ => providerStep_sat (Q := fun _ _ => True) (E' := fun _ _ => True)
        (sat_state (I := fun _ => True) |>.2 trivial) (fun _ _ => trivial)
        (fun e _ _ hc z hz => ⟨(Bool.and_eq_true _ _ ▸ hc).2, (Option.some.inj hz).symm⟩) (fun _ _ _ _ => trivial)
        (fun _ _ _ _ => trivial))
      (fun _ _ => nofun)
  cases early with
  | some z =>
    injection h with e1 e2; injection e1 with e1; subst e1
    exact Or.inr (hzero.ok hf z rfl)
  | none =>
    simp only at h
    cases hl : aget (s1.scope pc).values k with
    | some v' => rw [hl] at h; simp only at h; injection h with e1 e2; injection e1 with e1; subst e1; subst e2; exact Or.inl hl
    | none => rw [hl] at h; simp at h

theorem C01_nothing (ctx : Ctx) (fuel : Nat) (k : Key) (opt : Bool) (c : Nat) (st : St)
    (h1 : findDeco st k (st.ancestors c) = none) (h2 : findDecoratedValue st k (st.ancestors c) = none)
    (h3 : findProviders st k (st.ancestors c) = .none) :
    buildSingle ctx (fuel + 1) k opt c st =
      (if opt then .ok (zeroVal ctx.env k.ty) else .error (.err (.missingTypes [k])), st) := by
  simp only [buildSingle, h1, h2, h3]
  cases opt <;> simp

/-- a successful Invoke (without DryRun) entered the invoked function exactly once, as the last thing it did:
    its events are those of constructor / decorator nodes followed by the invoked function's enter and exit -/
theorem C01_invoked_once (ctx : Ctx) (hnd : ctx.cfg.dry = false) (fn : Fn) (st : St) (s : Nat) (info : Bool)
    (hlog : st.log = []) (hok : (apiInvoke ctx fn st s info).2.v = .ok) :
    ∃ l x args r, (apiInvoke ctx fn st s info).2.ev = l ++ [.enter .invoked fn.id x args, .exit .invoked fn.id x r] ∧
      ∀ e ∈ l, e.who ≠ .invoked := by
  obtain ⟨l, t, he, hb, ht, hne⟩ := apiInvoke_shape ctx fn st s info hlog
  rcases ht with rfl | ⟨_, x, args, r, rfl⟩
  · exact absurd rfl (hne hok hnd)
  · exact ⟨l, x, args, r, he, hb.who⟩

theorem C01_args_from_successful_executions (p : Program) (i : Nat) (w : Who) (g y : Nat) (args : List Val)
    (hent : (runProgram p).1.hist[i]? = some (.enter w g y args)) (a : Val) (ha : a ∈ args)
    (f x : Nat) (htok : (f, x) ∈ a.toks) :
    ∃ j who, j < i ∧ who ≠ .invoked ∧ (runProgram p).1.hist[j]? = some (.exit who f x .ok) := by
  obtain ⟨who, hw, hok⟩ := (prov_program p).args i w g y args hent a ha (f, x) htok
  obtain ⟨j, hj⟩ := List.getElem?_of_mem hok
  have hlt : j < i := by
    by_cases h : j < i
    · exact h
    · rw [List.getElem?_take_eq_none (Nat.le_of_not_lt h)] at hj; cases hj
  refine ⟨j, who, hlt, hw, ?_⟩
  rw [List.getElem?_take_of_lt hlt] at hj
  exact hj

theorem C01_cached_value_justified (p : Program) (S : Nat) (k : Key) (v : Val)
    (h : aget ((runProgram p).1.scope S).values k = some v) :
    ∃ n slot decl, n < (runProgram p).1.ctors.length ∧ ((runProgram p).1.ctor n).s = S ∧
      ((runProgram p).1.ctor n).called = true ∧ (k, slot, decl) ∈ slotLeaves ((runProgram p).1.ctor n).results ∧
      ∃ ret : Ret, v = ret.val p.types slot decl ∧
        (ret.dry = false → ret.f = ((runProgram p).1.ctor n).fn.id ∧
          Event.exit (.ctor n) ret.f ret.x .ok ∈ (runProgram p).1.hist) :=
  just_program p S k v h

theorem C01_cached_value_from_the_registered_provider (p : Program) (S : Nat) (k : Key) (v : Val)
    (h : aget ((runProgram p).1.scope S).values k = some v) :
    ∃ n, n ∈ agetL ((runProgram p).1.scope S).providers k ∧ k ∈ ctorKeys (runProgram p).1 n ∧
      ((runProgram p).1.ctor n).called = true ∧
      (∀ n', n' ∈ agetL ((runProgram p).1.scope S).providers k → k ∈ ctorKeys (runProgram p).1 n' → n' = n) ∧
      ∃ (slot decl : Nat) (ret : Ret), (k, slot, decl) ∈ slotLeaves ((runProgram p).1.ctor n).results ∧ v = ret.val p.types slot decl ∧
        (ret.dry = false → ret.f = ((runProgram p).1.ctor n).fn.id ∧
          Event.exit (.ctor n) ret.f ret.x .ok ∈ (runProgram p).1.hist) := by
  obtain ⟨n, slot, decl, hn, hs, hc, hm, ret, hv, hr⟩ := just_program p S k v h
  have hk : k ∈ ctorKeys (runProgram p).1 n := List.mem_map.mpr ⟨(k, slot, decl), hm, rfl⟩
  have hreg := (regInv_program p).regOK n hn k hk
  rw [hs] at hreg
  exact ⟨n, hreg, hk, hc, fun n' h1 h2 => (regInv_program p).uniq S k n' n h1 hreg h2 hk, slot, decl, ret, hm, hv, hr⟩

/-- non-vacuity (a test): the leaves of a result object with a named field and an As interface -/
example : slotLeaves [.err, .val (.object 9 [.single 0 5 5 "n1" [], .single 1 6 21 "" [22]])] =
    [({ ty := 5, name := "n1", group := "" }, 0, 5), ({ ty := 21, name := "", group := "" }, 1, 6),
     ({ ty := 22, name := "", group := "" }, 1, 6)] := by decide

#print axioms C01_decorator_wins
#print axioms C01_cached_value_justified
#print axioms C01_cached_value_from_the_registered_provider
#print axioms C01_args_from_successful_executions
#print axioms C01_decorated_cache
#print axioms C01_cached_value
#print axioms C01_provided
#print axioms C01_nothing
#print axioms C01_invoked_once
end Dig.C01
