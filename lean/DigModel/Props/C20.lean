import DigModel.Proofs.ApiLemmas
import DigModel.Proofs.Shape
import DigModel.Proofs.RootCauseApi
/-
  C20 — Callbacks fire once per execution with the true outcome (container without DryRun).

  `C20_ctor` / `C20_deco` (full strength for one execution): whatever the state, the arguments and
  the scripted behaviour, running a constructor (decorator) appends to the log exactly
  `enter, exit` and then — iff a callback was registered for it — exactly one callback event, whose
  error is nil on success, wraps the function's own error on failure (`RootCause` = that error),
  is the `PanicError` when the panic is recovered, and whose runtime is the time spent inside the
  function (`dt`), the arguments having been built before the clock was read.
  `C20_cached` / `C20_onstack`: a constructor that is already built, or currently being built, appends nothing.
  `C20_passive`: Provide/Decorate/Scope/Visualize/String report no callback event (from C03_passive):
  a rejected registration never fires one.
  `C20_trace_shape`, `C20_cb_only_after_exit` (any Invoke, any state) and `C20_program_trace_shape` (whole histories:
  every operation of every program): the reported events are execution blocks `enter·exit[·cb]` — callbacks occur
  nowhere else, never twice, never without the execution they report.
-/
namespace Dig.C20

def ctorCbErr (ctx : Ctx) (f x : Nat) : ExitKind → Option DErr
  | .ok => none
  | .err => some (.ctorFailed (.user f x))
  | .panic => if ctx.cfg.recover then some (.panicErr f x) else none

def decoCbErr (ctx : Ctx) (f x : Nat) : ExitKind → Option DErr
  | .ok => none
  | .err => some (.user f x)
  | .panic => if ctx.cfg.recover then some (.panicErr f x) else none

private theorem tail_log_eq (ctx : Ctx) (who : Who) (fn : Fn) (args : List Val) (st : St) (cb : Option Nat)
    (err : Option DErr) (commit : St → St) (hc : ∀ s, (commit s).log = s.log ∧ (commit s).clock = s.clock) :
    (runCallback cb who fn.id st.clock err (commit (afterBody ctx who fn args st))).log =
      st.log ++ bodyEvents ctx who fn args st ++
        (match cb with
         | some op => [.cb op who fn.id err (ctx.beh fn.id (st.execCount fn.id)).dt]
         | none => []) := by
  unfold runCallback
  cases cb with
  | none => simp only [(hc _).1, afterBody, List.append_nil]
  | some op => simp only [St.emit, (hc _).1, (hc _).2, afterBody, Nat.add_sub_cancel_left]

private theorem ctorOutcome_cbErr (ctx : Ctx) (fn : Fn) (st : St) :
    (ctorOutcome ctx fn.id (bodyRes ctx fn st)).2 =
      ctorCbErr ctx fn.id (st.execCount fn.id) (exitKind ctx fn (ctx.beh fn.id (st.execCount fn.id))) := by
  cases hk : (ctx.beh fn.id (st.execCount fn.id)).k <;> simp only [bodyRes, exitKind, hk, ctorOutcome, ctorCbErr]
  · cases (errOuts ctx.env fn).isEmpty <;> rfl
  · cases ctx.cfg.recover <;> rfl

private theorem decoOutcome_cbErr (ctx : Ctx) (fn : Fn) (st : St) :
    (decoOutcome ctx fn.id (bodyRes ctx fn st)).2 =
      decoCbErr ctx fn.id (st.execCount fn.id) (exitKind ctx fn (ctx.beh fn.id (st.execCount fn.id))) := by
  cases hk : (ctx.beh fn.id (st.execCount fn.id)).k <;> simp only [bodyRes, exitKind, hk, decoOutcome, decoCbErr]
  · cases (errOuts ctx.env fn).isEmpty <;> rfl
  · cases ctx.cfg.recover <;> rfl

theorem C20_ctor (ctx : Ctx) (hnd : ctx.cfg.dry = false) (n : Nat) (node : CtorNode) (args : List Val) (st : St) :
    let f := node.fn.id
    let x := st.execCount f
    let b := ctx.beh f x
    let r := exitKind ctx node.fn b
    (ctorTail ctx n node args st).2.log =
      st.log ++ [.enter (.ctor n) f x args, .exit (.ctor n) f x r] ++
        (match node.cb with
         | some op => [.cb op (.ctor n) f (ctorCbErr ctx f x r) b.dt]
         | none => []) := by
  simp only [ctorTail, callBody_spec ctx hnd]
  rw [tail_log_eq ctx (.ctor n) node.fn args st node.cb _ (ctorCommit ctx n node _)
    fun s => ⟨(ctorCommit_fields ctx n node _ s).1, (ctorCommit_fields ctx n node _ s).2.2.2.2⟩, ctorOutcome_cbErr]
  rfl

theorem C20_deco (ctx : Ctx) (hnd : ctx.cfg.dry = false) (d : Nat) (node : DecoNode) (args : List Val) (st : St) :
    let f := node.fn.id
    let x := st.execCount f
    let b := ctx.beh f x
    let r := exitKind ctx node.fn b
    (decoTail ctx d node args st).2.log =
      st.log ++ [.enter (.deco d) f x args, .exit (.deco d) f x r] ++
        (match node.cb with
         | some op => [.cb op (.deco d) f (decoCbErr ctx f x r) b.dt]
         | none => []) := by
  simp only [decoTail, callBody_spec ctx hnd]
  rw [tail_log_eq ctx (.deco d) node.fn args st node.cb _ (decoCommit ctx d node _)
    fun s => ⟨(decoCommit_fields ctx d node _ s).1, (decoCommit_fields ctx d node _ s).2.2.2.2⟩, decoOutcome_cbErr]
  rfl

/-- a callback's error has the function's own error as root cause -/
theorem C20_error_root (ctx : Ctx) (f x : Nat) :
    (ctorCbErr ctx f x .err).map DErr.rootCause = some (.user f x) ∧
    (decoCbErr ctx f x .err).map DErr.rootCause = some (.user f x) := ⟨rfl, rfl⟩

/-- a constructor that has been built already is not executed and fires no callback -/
theorem C20_cached (ctx : Ctx) (fuel n c : Nat) (st : St) (h : (st.ctor n).called = true) :
    callCtor ctx (fuel + 1) n c st = (.ok (), st) := by
  rw [callCtor_succ, if_pos h]

/-- neither is one whose arguments are being built (it yields a cycle error instead) -/
theorem C20_onstack (ctx : Ctx) (fuel n c : Nat) (st : St) (h0 : (st.ctor n).called = false)
    (h : (st.ctor n).onStack = true) :
    callCtor ctx (fuel + 1) n c st = (.error (.err (.cycle [n] (st.ctor n).s)), st) := by
  rw [callCtor_succ, if_neg (by simp [h0]), if_pos h]

theorem C20_deco_cached (ctx : Ctx) (fuel d s : Nat) (st : St) (h : (st.deco d).state = .called) :
    callDeco ctx (fuel + 1) d s st = (.ok (), st) := by
  rw [callDeco_succ, if_pos (by simp [h])]

theorem C20_passive (ctx : Ctx) (fns : List Fn) (st : St) (i : Nat) (op : Op) (h : op.isInvoke = false) :
    (step ctx fns st i op).2.ev = [] := step_passive ctx fns st i op h

/-- **nowhere else**: the events reported by any Invoke, from any state, are a sequence of execution blocks
    (`enter·exit`, `enter·exit·cb`, or — DryRun only — a lone `cb`) of constructor and decorator nodes, followed by
    the two events of the invoked function if its arguments could be built -/
theorem C20_trace_shape (ctx : Ctx) (fn : Fn) (st : St) (s : Nat) (info : Bool) (hlog : st.log = []) :
    ∃ l t, (apiInvoke ctx fn st s info).2.ev = l ++ t ∧ Blocks ctx.cfg.dry l ∧
      (t = [] ∨ (ctx.cfg.dry = false ∧ ∃ x args r, t = [.enter .invoked fn.id x args, .exit .invoked fn.id x r])) ∧
      ((apiInvoke ctx fn st s info).2.v = .ok → ctx.cfg.dry = false → t ≠ []) :=
  apiInvoke_shape ctx fn st s info hlog

/-- hence, without DryRun, every callback event of an Invoke sits directly behind the exit event of an execution
    of the same node and the same function: no callback without an execution, none detached from it -/
theorem C20_cb_only_after_exit (ctx : Ctx) (hnd : ctx.cfg.dry = false) (fn : Fn) (st : St) (s : Nat) (info : Bool)
    (hlog : st.log = []) (i op : Nat) (w : Who) (f : Nat) (err : Option DErr) (rt : Nat)
    (h : (apiInvoke ctx fn st s info).2.ev[i]? = some (.cb op w f err rt)) :
    ∃ x r, 0 < i ∧ (apiInvoke ctx fn st s info).2.ev[i - 1]? = some (.exit w f x r) := by
  obtain ⟨l, t, he, hb, ht, _⟩ := apiInvoke_shape ctx fn st s info hlog
  rw [he] at h ⊢
  refine (hnd ▸ hb).cbBehindExit_append ?_ i op w f err rt h
  rcases ht with rfl | ⟨_, x, args, r, rfl⟩
  · exact .nil
  · exact (CbBehindExit.nil.cons (.exit .invoked fn.id x r) fun _ _ _ _ _ e => nomatch e).cons (.enter .invoked fn.id x args)
      fun _ _ _ _ _ e => nomatch e

/-- **whole histories: callbacks occur nowhere else.**  For every program, the events reported by every operation are a
    sequence of execution blocks (`enter·exit`, `enter·exit·cb`, or — DryRun only — a lone `cb`) of constructor and
    decorator nodes, followed by the two events of the invoked function if there is one: a callback event never stands
    alone (outside DryRun), never twice behind one execution, never behind the invoked function, and Provide, Decorate,
    Scope, Visualize and String report no event at all -/
theorem C20_program_trace_shape (p : Program) : ∀ r ∈ (runProgram p).2,
    ∃ l t, r.ev = l ++ t ∧ Blocks p.cfg.dry l ∧
      (t = [] ∨ (p.cfg.dry = false ∧ ∃ f x args k, t = [.enter .invoked f x args, .exit .invoked f x k])) := by
  refine runOps_all p.ctx p.fns _ (fun st i op => ?_) p.ops 0 {} [] (fun r hr => nomatch hr)
  have hnil : ∀ (w : St) (r : OpRes), r.ev = [] → ∃ l t, (w, r).2.ev = l ++ t ∧ Blocks p.cfg.dry l ∧
      (t = [] ∨ (p.cfg.dry = false ∧ ∃ f x args k, t = [.enter .invoked f x args, .exit .invoked f x k])) :=
    fun _ _ h => ⟨[], [], h, Blocks.nil, Or.inl rfl⟩
  refine step_cases p.ctx p.fns st i op (P := fun r => ∃ l t, r.2.ev = l ++ t ∧ Blocks p.cfg.dry l ∧
      (t = [] ∨ (p.cfg.dry = false ∧ ∃ f x args k, t = [.enter .invoked f x args, .exit .invoked f x k])))
    (fun _ _ _ => hnil _ _ rfl) (fun _ _ _ _ _ _ _ => hnil _ _ rfl) (fun _ _ _ _ _ _ _ _ => hnil _ _ rfl) ?_
    (fun _ _ => hnil _ _ rfl)
  intro s f info fn _ _ _
  obtain ⟨l, t, he, hb, ht, _⟩ := apiInvoke_shape p.ctx fn { st with log := [] } s info rfl
  exact ⟨l, t, he, hb, ht.imp_right fun ⟨hd, x, args, k, h⟩ => ⟨hd, fn.id, x, args, k, h⟩⟩

#print axioms C20_program_trace_shape
#print axioms C20_ctor
#print axioms C20_deco
#print axioms C20_error_root
#print axioms C20_cached
#print axioms C20_onstack
#print axioms C20_deco_cached
#print axioms C20_passive
#print axioms C20_trace_shape
#print axioms C20_cb_only_after_exit
end Dig.C20
