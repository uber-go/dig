import DigModel.Proofs.DotTextProofs
import DigModel.Proofs.DotParseProofs
import DigModel.Dot
import DigModel.DotOut
/-
  C19 — Visualize is a faithful, well-formed picture of the container (structure level).

  * `C19_can`: `CanVisualizeError` is true exactly when the error chain contains one of the three error kinds that
    carry graph information (`errParamSingleFailed`, `errParamGroupFailed`, `errMissingTypes`);
  * `C19_no_error_is_createGraph`: without `VisualizeError` the picture is `createGraph` — nothing is pruned or
    coloured; with an error that carries no information likewise (`C19_uninformative_error`);
  * `C19_addCtor_appends`: `AddCtor` appends exactly one constructor entry, alive and uncoloured, and leaves the
    entries of earlier constructors in place (one cluster per accepted constructor, in registration order);
  * `C19_first_failure_is_root`: the first failure recorded (the innermost of the chain) is the root cause; later ones
    are transitive: `failNode` appends to `rootCauses` iff none was recorded before.
  * `C19_one_cluster_per_constructor`: the picture of a container (no error given) has exactly one cluster per entry
    of the scopes' `nodes` lists — the accepted constructors, root first, then each child scope, in registration
    order — and the cluster of constructor `n` carries `n`'s ID, one parameter entry per declared *single*
    dependency (type, name, optional flag preserved: a dashed edge iff optional) and one result node per declared
    result (parameter/result objects flattened, As expanded), every cluster alive and uncoloured.
  * **the text** (`DotSyntax.lean`: a lexer and a parser for the DOT language as far as dig uses it; `DotRender.lean`:
    the document `visualizeGraph` writes, item by item; `DotOut.lean`: the `String()` methods):
    `C19_text_lexes_into_its_tokens`, `C19_text_is_valid_dot` — for every picture, every type, name and group text and
    every quoting function that closes its strings, the text lexes (identifiers separated, quoted and HTML strings
    closed exactly where the writer closed them) and parses into exactly the statements the writer meant —,
    `C19_model_text_is_valid_dot` (for the model's own text, `strconv.Quote` on printable ASCII),
    `C19_one_subgraph_per_drawn_constructor`, `C19_edge_dashed_iff_optional`, `C19_group_node_links_each_member`.
  Value-group nodes and the whole structure including pruning are compared with the real Visualize output on every
  explored program by the K-dot correspondence; the text, read as a DOT document, by K-dottext.
-/
namespace Dig.C19

theorem C19_can (e : DErr) : e.canVisualize = true ↔ ∃ x ∈ e.chain, x.isVisualizer = true := by
  simp [DErr.canVisualize, List.any_eq_true]

theorem C19_no_error_is_createGraph (env : TyEnv) (ids : Bool) (st : St) :
    visualize env ids st none = createGraph env ids st := rfl

theorem C19_uninformative_error (env : TyEnv) (ids : Bool) (st : St) (e : DErr) (h : e.canVisualize = false) :
    visualize env ids st (some e) = createGraph env ids st := by
  simp only [visualize, DGraph.update]
  have : (e.chain.filter DErr.isVisualizer) = [] := by
    apply List.filter_eq_nil_iff.mpr
    intro x hx
    simp only [DErr.canVisualize, List.any_eq_false] at h
    simpa using h x hx
  simp [this]

private theorem getGroup_ctors (g : DGraph) (k : Nat × String) : (g.getGroup k).1.ctors = g.ctors := by
  unfold DGraph.getGroup
  split <;> rfl

private theorem addParams_ctors (env : TyEnv) : ∀ (ps : List (Nat × String × String × Bool)) (g : DGraph),
    (DGraph.addParams env g ps).1.ctors = g.ctors := by
  intro ps
  induction ps with
  | nil => intro g; rfl
  | cons p rest ih =>
    intro g
    obtain ⟨ty, name, group, opt⟩ := p
    simp only [DGraph.addParams]
    split
    · rw [← ih g]
    · rw [ih, getGroup_ctors]

private theorem addResults_ctors : ∀ (rs : List (Nat × String × String)) (g : DGraph),
    (DGraph.addResults g rs).1.ctors = g.ctors := by
  intro rs
  induction rs with
  | nil => intro g; rfl
  | cons r rest ih =>
    intro g
    obtain ⟨ty, name, group⟩ := r
    simp only [DGraph.addResults]
    split
    · rw [← ih g]
    · rw [ih]; exact getGroup_ctors g _

private theorem addCtor_ctors (env : TyEnv) (g : DGraph) (id : Nat) (ps : List (Nat × String × String × Bool))
    (rs : List (Nat × String × String)) :
    (g.addCtor env id ps rs).ctors = g.ctors ++
      [{ id := id, params := (g.addParams env ps).2.1, gparams := (g.addParams env ps).2.2,
         results := ((g.addParams env ps).1.addResults rs).2 }] := by
  show ((g.addParams env ps).1.addResults rs).1.ctors ++ _ = _
  rw [addResults_ctors, addParams_ctors]

theorem C19_addCtor_appends (env : TyEnv) (g : DGraph) (id : Nat) (ps : List (Nat × String × String × Bool))
    (rs : List (Nat × String × String)) :
    ∃ c, (g.addCtor env id ps rs).ctors = g.ctors ++ [c] ∧ c.id = id ∧ c.alive = true ∧ c.err = .none :=
  ⟨_, addCtor_ctors env g id ps rs, rfl, rfl, rfl⟩

/-- the single (non-group) parameters of a flattened parameter list -/
def singleParams : List (Nat × String × String × Bool) → List DParam
  | [] => []
  | (ty, name, group, opt) :: rest =>
    if group == "" then { ty := ty, name := name, group := group, optional := opt } :: singleParams rest
    else singleParams rest

/-- what a cluster shows of its constructor -/
def ctorView (c : DCtor) : Nat × List DParam × List (Nat × String × String) × Bool × ErrT :=
  (c.id, c.params, c.results.map (fun r => (r.ty, r.name, r.group)), c.alive, c.err)

private theorem addParams_params (env : TyEnv) : ∀ (ps : List (Nat × String × String × Bool)) (g : DGraph),
    (DGraph.addParams env g ps).2.1 = singleParams ps := by
  intro ps
  induction ps with
  | nil => intro g; rfl
  | cons p rest ih =>
    intro g
    obtain ⟨ty, name, group, opt⟩ := p
    simp only [DGraph.addParams, singleParams]
    split
    · rw [← ih g]
    · rw [ih]

private theorem addResults_results : ∀ (rs : List (Nat × String × String)) (g : DGraph),
    (DGraph.addResults g rs).2.map (fun r => (r.ty, r.name, r.group)) = rs := by
  intro rs
  induction rs with
  | nil => intro g; rfl
  | cons r rest ih =>
    intro g
    obtain ⟨ty, name, group⟩ := r
    simp only [DGraph.addResults]
    split
    · simp only [List.map_cons]; rw [ih g]
    · simp only [List.map_cons]; rw [ih]

theorem addCtor_view (env : TyEnv) (g : DGraph) (id : Nat) (ps : List (Nat × String × String × Bool))
    (rs : List (Nat × String × String)) :
    (g.addCtor env id ps rs).ctors.map ctorView = g.ctors.map ctorView ++ [(id, singleParams ps, rs, true, ErrT.none)] := by
  rw [addCtor_ctors, List.map_append, List.map_singleton, ctorView, addParams_params, addResults_results]

/-- the constructors `Visualize` walks over: the scope's accepted constructors, then its children's -/
def preorderNodes (st : St) : Nat → Nat → List Nat
  | 0, _ => []
  | fuel + 1, s => (st.scope s).nodes ++ (st.scope s).children.flatMap (preorderNodes st fuel)

def clusterOf (ids : Bool) (st : St) (n : Nat) : Nat × List DParam × List (Nat × String × String) × Bool × ErrT :=
  (ctorId ids (st.ctor n).fn, singleParams (dotParams (st.ctor n).params), dotSlots (st.ctor n).results, true, ErrT.none)

private theorem foldl_view {α : Type} {f : DGraph → α → DGraph}
    {v : α → List (Nat × List DParam × List (Nat × String × String) × Bool × ErrT)}
    (h : ∀ g a, (f g a).ctors.map ctorView = g.ctors.map ctorView ++ v a) : ∀ (l : List α) (g : DGraph),
    (l.foldl f g).ctors.map ctorView = g.ctors.map ctorView ++ l.flatMap v
  | [], g => (List.append_nil _).symm
  | a :: l, g => by rw [List.foldl_cons, foldl_view h l, h, List.append_assoc, List.flatMap_cons]

theorem addNodesAux_view (env : TyEnv) (ids : Bool) (st : St) : ∀ (fuel s : Nat) (g : DGraph),
    (addNodesAux env ids st fuel s g).ctors.map ctorView = g.ctors.map ctorView ++ (preorderNodes st fuel s).map (clusterOf ids st)
  | 0, _, _ => (List.append_nil _).symm
  | fuel + 1, s, g => by
    rw [addNodesAux, preorderNodes, foldl_view (fun g c => addNodesAux_view env ids st fuel c g),
      foldl_view (v := fun n => [clusterOf ids st n]) (fun g n => addCtor_view env g _ _ _),
      List.append_assoc, List.map_append, List.map_flatMap, ← List.map_eq_flatMap]

theorem C19_one_cluster_per_constructor (env : TyEnv) (ids : Bool) (st : St) :
    (visualize env ids st none).ctors.map ctorView = (preorderNodes st st.scopes.length 0).map (clusterOf ids st) := by
  show (createGraph env ids st).ctors.map ctorView = _
  unfold createGraph
  rw [addNodesAux_view]
  simp

theorem C19_first_failure_is_root (g : DGraph) (r : DResult) :
    (g.failNode r g.rootCauses.isEmpty).rootCauses = (if g.rootCauses.isEmpty then g.rootCauses ++ [r] else g.rootCauses) ∧
    (g.failNode r g.rootCauses.isEmpty).transitive = (if g.rootCauses.isEmpty then g.transitive else g.transitive ++ [r]) := by
  unfold DGraph.failNode
  cases g.rootCauses.isEmpty <;> simp

open Dig.DotText in
/-- **a result node's label is one well-formed HTML string, whatever the type, the name and the group are**: the
    attribute text `(*Result).Attributes` composes is `label=<body>`, and the DOT lexer, started behind the opening `<`,
    reads exactly `body` and stops at the closing `>` — no character of a type such as `<-chan int` or of a name such as
    `a<b` can end the string early or keep it open (defect F18 was exactly that) -/
theorem C19_result_label_is_one_html_string (t name group rest : List Char) :
    ∃ body, resultAttr t name group = "label=<".toList ++ body ++ ">".toList ∧
      scan 1 [] (body ++ '>' :: rest) = some (body, rest) :=
  ⟨_, rfl, DotRender.hclosed_resultBody t name group rest⟩

open Dig.DotText in
/-- the same for the diamond of a value group, with or without the colour of a failure -/
theorem C19_group_label_is_one_html_string (t name : List Char) (err : Nat) (rest : List Char) :
    ∃ body tail, groupAttr t name err = "shape=diamond label=<".toList ++ body ++ ">".toList ++ tail ∧
      scan 1 [] (body ++ '>' :: rest) = some (body, rest) ∧
      (tail = [] ∨ tail = " color=red".toList ∨ tail = " color=orange".toList) := by
  refine ⟨_, _, rfl, DotRender.hclosed_groupBody t name rest, ?_⟩
  match err with
  | 0 => exact Or.inl rfl
  | 1 => exact Or.inr (Or.inl rfl)
  | _ + 2 => exact Or.inr (Or.inr rfl)

open Dig.DotText in
/-- **what a label displays is what was declared**: escaped text has no raw angle bracket, every ampersand in it starts a
    character reference, and decoding the references gives back the type / name / group — for every string -/
theorem C19_label_text_roundtrip (s : List Char) :
    '<' ∉ esc s ∧ '>' ∉ esc s ∧ refsOK (esc s) = true ∧ unesc (esc s) = s :=
  ⟨(esc_noAngle s).1, (esc_noAngle s).2, refsOK_esc s, unesc_esc s⟩

/-- non-vacuity (tests): the label of a value named `a<b` of type `<-chan int` -/
example : String.ofList (Dig.DotText.resultAttr "<-chan int".toList "a<b".toList []) =
    "label=<&lt;-chan int<BR /><FONT POINT-SIZE=\"10\">Name: a&lt;b</FONT>>" :=
  -- the characters are compared, not the UTF-8 encodings `String.ofList` builds
  congrArg String.ofList (by decide +kernel : Dig.DotText.resultAttr "<-chan int".toList "a<b".toList [] = _)
example : Dig.DotText.scan 1 [] "<-chan int>".toList = none := by decide +kernel     -- the unescaped text never closes

open Dig.DotRender Dig.DotSyntax in
/-- the text lexes into exactly the tokens it was written from: no identifier runs into the next, every quoted string
    and every HTML label ends where the writer ended it -/
theorem C19_text_lexes_into_its_tokens (q : List Char → List Char) (hq : ∀ s, QClosed (q s)) (g : RGraph) :
    lexDot (render q g) = some (toks (graphItems q g)) := lex_render q hq g

open Dig.DotRender Dig.DotSyntax in
/-- **Visualize emits syntactically valid DOT**, and the statements are the ones the writer meant (`graphAst`): the two
    settings, one diamond node per value group with an edge to each member, one `subgraph cluster_i` per constructor
    holding its label, its own node, its colour when it failed and one labelled node per result, one edge per parameter
    (with `style=dashed` exactly when optional) and per value-group parameter, one coloured node per failed result -/
theorem C19_text_is_valid_dot (q : List Char → List Char) (hq : ∀ s, QClosed (q s)) (g : RGraph) :
    (lexDot (render q g)).bind parseDot = some (graphAst q g) := by
  rw [lex_render q hq g, Option.bind_some, parse_render]

open Dig.DotRender Dig.DotSyntax in
/-- the same for the text the model writes for a picture `g` of Dot.lean (names of types and constructors given) -/
theorem C19_model_text_is_valid_dot (n : DotNames) (g : DGraph) :
    (lexDot (dotText n g).toList).bind parseDot = some (graphAst goQuote (toRGraph n g)) := by
  unfold dotText
  rw [String.toList_ofList]
  exact C19_text_is_valid_dot goQuote goQuote_closed _

open Dig.DotRender Dig.DotSyntax in
def isSubgraph : Stmt → Bool
  | .subgraph _ _ => true
  | _ => false

open Dig.DotRender Dig.DotSyntax in
private theorem filter_isSubgraph_map {α : Type} {f : α → Stmt} (h : ∀ x, isSubgraph (f x) = false) (l : List α) :
    (l.map f).filter isSubgraph = [] :=
  List.filter_eq_nil_iff.mpr fun _ hs => by
    obtain ⟨x, _, rfl⟩ := List.mem_map.mp hs
    exact ne_true_of_eq_false (h x)

open Dig.DotRender Dig.DotSyntax in
private theorem count_ctorsAst (q : List Char → List Char) : ∀ (cs : List RCtor) (i : Nat),
    ((ctorsAst q i cs).filter isSubgraph).length = cs.length
  | [], _ => rfl
  | c :: rest, i => by
    have h : (ctorAst q i c).filter isSubgraph = [.subgraph ("cluster_".toList ++ natDigits i) (clusterBody q i c)] := by
      rw [ctorAst, List.filter_cons_of_pos rfl, List.filter_append, filter_isSubgraph_map (fun _ => rfl),
        filter_isSubgraph_map (fun _ => rfl)]
      rfl
    rw [ctorsAst, List.filter_append, List.length_append, h, count_ctorsAst q rest (i + 1)]
    exact Nat.add_comm 1 _

open Dig.DotRender Dig.DotSyntax in
/-- exactly one `subgraph` statement per constructor of the picture -/
theorem C19_one_subgraph_per_drawn_constructor (q : List Char → List Char) (g : RGraph) :
    ((graphAst q g).filter isSubgraph).length = g.ctors.length := by
  have hgroups : (g.groups.flatMap (groupAst q)).filter isSubgraph = [] := by
    rw [List.filter_flatMap]
    exact List.flatMap_eq_nil_iff.mpr fun x _ => filter_isSubgraph_map (fun _ => rfl) x.results
  rw [graphAst, List.filter_append, List.filter_append, List.filter_append, List.filter_append, hgroups,
    filter_isSubgraph_map (fun _ => rfl), filter_isSubgraph_map (fun _ => rfl), List.append_nil, List.append_nil]
  exact count_ctorsAst q g.ctors 0

private theorem indexed_snd {α : Type} : ∀ (l : List α) (i : Nat), (indexed i l).map (·.2) = l
  | [], _ => rfl
  | x :: rest, i => congrArg (x :: ·) (indexed_snd rest (i + 1))

private theorem toRGraph_ctors_length (n : DotNames) (g : DGraph) (h : ∀ c ∈ g.ctors, c.alive = true) :
    (toRGraph n g).ctors.length = g.ctors.length := by
  have hf : (indexed 0 g.ctors).filter (·.2.alive) = indexed 0 g.ctors :=
    List.filter_eq_self.mpr fun ic hic => h ic.2 (indexed_snd g.ctors 0 ▸ List.mem_map_of_mem hic)
  rw [toRGraph, List.length_map, hf, ← List.length_map (f := (·.2)), indexed_snd]

open Dig.DotRender Dig.DotSyntax in
/-- **exactly one cluster per accepted constructor**: the text `Visualize` writes for a container (no error given) parses
    into as many `subgraph` statements as the scopes' lists of accepted constructors have entries — root first, then
    each child scope — whatever the names are -/
theorem C19_text_has_one_cluster_per_accepted_constructor (env : TyEnv) (ids : Bool) (st : St) (n : DotNames) :
    (lexDot (dotText n (visualize env ids st none)).toList).bind parseDot =
      some (graphAst goQuote (toRGraph n (visualize env ids st none))) ∧
    ((graphAst goQuote (toRGraph n (visualize env ids st none))).filter isSubgraph).length =
      (preorderNodes st st.scopes.length 0).length := by
  refine ⟨C19_model_text_is_valid_dot n _, ?_⟩
  have hview := C19_one_cluster_per_constructor env ids st
  rw [C19_one_subgraph_per_drawn_constructor, toRGraph_ctors_length, ← List.length_map (f := ctorView), hview,
    List.length_map]
  intro c hc
  obtain ⟨m, _, hm⟩ := List.mem_map.mp (hview ▸ List.mem_map_of_mem (f := ctorView) hc)
  exact congrArg (·.2.2.2.1) hm.symm

open Dig.DotRender Dig.DotSyntax in
/-- the edge of a parameter carries `style=dashed` exactly when the parameter is optional -/
theorem C19_edge_dashed_iff_optional (q : List Char → List Char) (i : Nat) (p : RParam) :
    paramAst q i p = .edge (ctorTok i) (.quoted (q p.str))
      (if p.optional then [A "ltail" (clusterTok i), A "style" (.bare "dashed".toList)] else [A "ltail" (clusterTok i)]) := by
  unfold paramAst
  cases p.optional <;> rfl

open Dig.DotRender Dig.DotSyntax in
/-- a value group is one node followed by one edge to each of its members -/
theorem C19_group_node_links_each_member (q : List Char → List Char) (g : RGroup) :
    (groupAst q g).tail = g.results.map (fun r => Stmt.edge (.quoted (q g.str)) (.quoted (q r)) []) := rfl

-- non-vacuity (a *test*, run by the evaluator at build time): a small picture is written, read back and parsed
#guard ((Dig.DotSyntax.lexDot (dotText { types := [(10, "*pool.T0")], ctors := [("f", "p")] }
    { ctors := [{ id := 1, results := [{ ty := 10, name := "a\"b", group := "" }] }] }).toList).bind Dig.DotSyntax.parseDot).isSome

-- the grammar is not vacuous (*tests*): an unclosed string, an unclosed label, a missing brace, a dangling arrow and an
-- attribute without a value are rejected
#guard (Dig.DotSyntax.lexDot "digraph { \"a [color=red]; }".toList).isNone
#guard (Dig.DotSyntax.lexDot "digraph { a [label=<b<i>]; }".toList).isNone
#guard ((Dig.DotSyntax.lexDot "digraph { a -> b; ".toList).bind Dig.DotSyntax.parseDot).isNone
#guard ((Dig.DotSyntax.lexDot "digraph { a -> ; }".toList).bind Dig.DotSyntax.parseDot).isNone
#guard ((Dig.DotSyntax.lexDot "digraph { a [color]; }".toList).bind Dig.DotSyntax.parseDot).isNone
#guard ((Dig.DotSyntax.lexDot "digraph { subgraph cluster_0 { a; } b -> a [style=dashed]; }".toList).bind Dig.DotSyntax.parseDot).isSome

#print axioms C19_result_label_is_one_html_string
#print axioms C19_text_lexes_into_its_tokens
#print axioms C19_text_is_valid_dot
#print axioms C19_model_text_is_valid_dot
#print axioms C19_one_subgraph_per_drawn_constructor
#print axioms C19_text_has_one_cluster_per_accepted_constructor
#print axioms C19_edge_dashed_iff_optional
#print axioms C19_group_node_links_each_member
#print axioms C19_group_label_is_one_html_string
#print axioms C19_label_text_roundtrip
#print axioms C19_can
#print axioms addCtor_view
#print axioms addNodesAux_view
#print axioms C19_one_cluster_per_constructor
#print axioms C19_no_error_is_createGraph
#print axioms C19_uninformative_error
#print axioms C19_addCtor_appends
#print axioms C19_first_failure_is_root
end Dig.C19
