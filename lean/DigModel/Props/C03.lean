import DigModel.Proofs.ApiLemmas
import DigModel.Proofs.ReachApi
import DigModel.Proofs.ProvApi
import DigModel.Proofs.DepsApi
import DigModel.Proofs.GroupsBuilt
/-
  C03 — Laziness.

  `C03_passive` (full strength): Scope, Provide, Decorate, Visualize and String report no event
  at all, in any state: they never execute a user function and fire no callback.
  `C03_invoke_registry`: building arguments never registers or unregisters anything (the
  resolver's frame), so laziness cannot be circumvented by an Invoke changing what later
  Invokes see as registered.
  `C03_only` (full strength, any container state): every user function entered during an Invoke is the
  invoked function itself or the function of a constructor / decorator **reachable** (`Reach`, defined on the
  registry as it was when Invoke was called) from a parameter of the invoked function seen from the invoking
  scope: through a decorator of the key registered on the path to the root, through the providers of a single
  key in the *nearest* providing scope, through the providers of a non-soft value group on the path, and
  recursively through the parameters of those nodes, each seen from the node's own scope (`origS` for
  constructors).  A soft group reaches nothing but its decorators; sibling scopes, descendants, other keys,
  farther providers of a shadowed key are outside the closure.  (`engine_only`: induction over the resolver.)
  `C03_dependencies_complete_first` (whole programs): whatever value is handed to a user function stems
  from executions that had already exited successfully (`Prov`).
  The "must-run" half — when Invoke succeeds, what it needed has run — is proved through availability (`HasKey`: a
  decorated value or a value for the key is cached in a scope on the path to the root, i.e. it can be had without
  running anything):
  * `C03_success_leaves_dependencies_built` (whole programs): after a successful Invoke on the container at the end of any
    history, every required (non-optional) single dependency of the invoked function — positional, named or a field at
    any depth of a parameter object — is available from the invoking scope;
  * `C03_built_nodes_have_their_dependencies` (whole programs, invariant `Deps` of every operation, proved through the six
    resolver functions): in every reachable container every built constructor, and every decorator that has run, has
    all its required single dependencies available from the scope it was built from — so availability is closed under
    "depends on";
  * `C03_available_means_built`: an available key was produced by a built constructor living in that scope on the path
    and declaring the key, or by a decorator of that scope that has run (`Just`, `Just2`).
  Together: after a successful Invoke, the constructors and decorators that produced the invoked function's required
  single dependencies are built, and so are, transitively, those that produced theirs.  For non-soft value groups:
  `C03_success_leaves_group_feeders_built` (whole programs: after a successful Invoke every non-soft value group among the
  invoked function's parameters, at any depth of parameter objects, is decorated on the path — a decorator registered or a
  decorated group cached — or has **every** provider on the path from the invoking scope built; `groups_built`,
  induction over parameter objects with "built stays built" and "caches keep their keys").  An optional
  dependency whose constructor cannot be built for missing dependencies is delivered as the zero value and its
  constructor does not run (`providerStep`); the exact must-run closure including that case and the interplay with
  decorators being skipped while they run is compared with the real library by the trace predicate `pred_c03`.
-/
namespace Dig.C03

theorem C03_passive (ctx : Ctx) (fns : List Fn) (st : St) (i : Nat) (op : Op) (h : op.isInvoke = false) :
    (step ctx fns st i op).2.ev = [] := step_passive ctx fns st i op h

theorem C03_invoke_registry (ctx : Ctx) (fuel : Nat) (ps : List Param) (c : Nat) (st : St) :
    RegFrame st (buildList ctx fuel ps c st).2 := buildList_regFrame ctx fuel ps c st

theorem C03_only (ctx : Ctx) (fns : List Fn) (st : St) (i s f : Nat) (info : Bool) :
    ∀ e ∈ (step ctx fns st i (.invoke s f info)).2.ev, ∀ w g x args, e = Event.enter w g x args →
      w = .invoked ∨ ∃ fn params w0, fnOf fns f = some fn ∧
        parseParams ctx.env { st with log := [] } s fn = (.ok params, w0) ∧ ∃ l ∈ leavesL params, Reach st s l w := by
  refine step_cases ctx fns st i (.invoke s f info) (P := fun r => ∀ e ∈ r.2.ev, ∀ w g x args, e = Event.enter w g x args →
      w = .invoked ∨ ∃ fn params w0, fnOf fns f = some fn ∧
        parseParams ctx.env { st with log := [] } s fn = (.ok params, w0) ∧ ∃ l ∈ leavesL params, Reach st s l w)
    (fun _ _ _ _ he => nomatch he) (fun _ _ _ _ _ _ _ _ he => nomatch he) (fun _ _ _ _ _ _ _ _ _ he => nomatch he) ?_
    (fun _ _ _ he => nomatch he)
  intro s' f' info' fn e hf _ ev he w g x args heq
  cases e
  refine (apiInvoke_only ctx fn { st with log := [] } s info rfl ev he w g x args heq).imp_right
    fun ⟨params, w0, hp, l, hl, hr⟩ => ⟨fn, params, w0, hf, hp, l, hl, ?_⟩
  exact reach_view (a := { st with log := [] }) (b := st)
    ⟨fun _ => rfl, fun _ => ⟨rfl, rfl⟩, fun _ => ⟨rfl, rfl⟩, fun _ => ⟨rfl, rfl⟩⟩ hr

theorem C03_dependencies_complete_first (p : Program) (i : Nat) (w : Who) (g y : Nat) (args : List Val)
    (hent : (runProgram p).1.hist[i]? = some (.enter w g y args)) (a : Val) (ha : a ∈ args)
    (f x : Nat) (htok : (f, x) ∈ a.toks) :
    ∃ who, who ≠ .invoked ∧ Event.exit who f x .ok ∈ (runProgram p).1.hist.take i :=
  (prov_program p).args i w g y args hent a ha (f, x) htok

/-- non-vacuity (a test): with a provider of `k` in scope 0 only, that provider is reachable from a consumer of `k`
    in scope 0 -/
example : Reach { scopes := [{ parent := none, providers := [(⟨5, "", ""⟩, [0])] }], ctors := [default] } 0
    (.single ⟨5, "", ""⟩) (.ctor 0) :=
  Reach.provSelf (pc := 0) (ns := [0]) (by decide) (by simp)

/-- non-vacuity, negative (a test): a constructor provided to a sibling scope is *not* reachable — nothing is -/
def siblingTree : St :=
  { scopes := [{ parent := none, children := [1, 2] }, { parent := some 0 },
               { parent := some 0, providers := [(⟨5, "", ""⟩, [0])] }], ctors := [default] }

example (w : Who) : ¬ Reach siblingTree 1 (.single ⟨5, "", ""⟩) w := by
  intro h
  have hanc : siblingTree.ancestors 1 = [1, 0] := by decide
  cases h with
  | decoSelf hs hd =>
    rw [hanc] at hs
    simp only [List.mem_cons, List.not_mem_nil, or_false] at hs
    rcases hs with rfl | rfl <;> simp [siblingTree, St.scope, aget, Lf.key] at hd
  | decoDep hs hd _ _ =>
    rw [hanc] at hs
    simp only [List.mem_cons, List.not_mem_nil, or_false] at hs
    rcases hs with rfl | rfl <;> simp [siblingTree, St.scope, aget, Lf.key] at hd
  | provSelf hn _ => rw [hanc] at hn; simp [nearestProv, siblingTree, St.scope, agetL, aget] at hn
  | provDep hn _ _ _ => rw [hanc] at hn; simp [nearestProv, siblingTree, St.scope, agetL, aget] at hn

private theorem reachable_deps (p : Program) : Deps (runProgram p).1 := deps_program p

theorem C03_built_nodes_have_their_dependencies (p : Program) :
    (∀ n, ((runProgram p).1.ctor n).called = true → ∀ k ∈ reqSinglesL ((runProgram p).1.ctor n).params,
      HasKey (runProgram p).1 ((runProgram p).1.ctor n).origS k) ∧
    (∀ d, ((runProgram p).1.deco d).state = .called → ∀ k ∈ reqSinglesL ((runProgram p).1.deco d).params,
      HasKey (runProgram p).1 ((runProgram p).1.deco d).s k) :=
  ⟨(deps_program p).ctor, (deps_program p).deco⟩

theorem C03_success_leaves_dependencies_built (p : Program) (i s f : Nat) (info : Bool)
    (hok : (step p.ctx p.fns (runProgram p).1 i (.invoke s f info)).2.v = .ok) :
    ∃ fn params w0, fnOf p.fns f = some fn ∧
      parseParams p.types { (runProgram p).1 with log := [] } s fn = (.ok params, w0) ∧
      ∀ k ∈ reqSinglesL params, HasKey (step p.ctx p.fns (runProgram p).1 i (.invoke s f info)).1 s k := by
  have hd := reachable_deps p
  generalize (runProgram p).1 = st at hd hok ⊢
  have h0 : Deps { st with log := [] } := hd.frame (fr_of_same rfl (fun _ => ⟨rfl, rfl, rfl⟩) rfl rfl)
  simp only [step] at hok ⊢
  cases hf : fnOf p.fns f with
  | none => rw [hf] at hok; simp at hok
  | some fn =>
    rw [hf] at hok
    simp only at hok ⊢
    split
    · rename_i hs
      rw [if_pos hs] at hok
      obtain ⟨params, w0, hp, hall⟩ := (h0.invoke p.ctx fn s info).2 hok
      exact ⟨fn, params, w0, rfl, hp, hall⟩
    · rename_i hs; rw [if_neg hs] at hok; simp at hok

theorem C03_available_means_built (p : Program) (c : Nat) (k : Key) (h : HasKey (runProgram p).1 c k) :
    ∃ S ∈ (runProgram p).1.ancestors c,
      (∃ d slot decl, d < (runProgram p).1.decos.length ∧ ((runProgram p).1.deco d).s = S ∧
        (false, k, slot, decl) ∈ slotDecoLeaves p.types ((runProgram p).1.deco d).results) ∨
      (∃ n slot decl, n < (runProgram p).1.ctors.length ∧ ((runProgram p).1.ctor n).s = S ∧
        ((runProgram p).1.ctor n).called = true ∧ (k, slot, decl) ∈ slotLeaves ((runProgram p).1.ctor n).results) := by
  obtain ⟨S, hS, hv⟩ := h
  refine ⟨S, hS, ?_⟩
  rcases hv with hv | hv
  · cases hg : aget ((runProgram p).1.scope S).decoratedValues k with
    | none => rw [hg] at hv; cases hv
    | some v =>
      obtain ⟨d, slot, decl, h1, h2, h3, _⟩ := (just2_program p).dvalues S k v hg
      exact Or.inl ⟨d, slot, decl, h1, h2, h3⟩
  · cases hg : aget ((runProgram p).1.scope S).values k with
    | none => rw [hg] at hv; cases hv
    | some v =>
      obtain ⟨n, slot, decl, h1, h2, h3, h4, _⟩ := just_program p S k v hg
      exact Or.inr ⟨n, slot, decl, h1, h2, h3, h4⟩


theorem C03_success_leaves_group_feeders_built (p : Program) (i s f : Nat) (info : Bool)
    (hok : (step p.ctx p.fns (runProgram p).1 i (.invoke s f info)).2.v = .ok) :
    ∃ fn params w0, fnOf p.fns f = some fn ∧
      parseParams p.types { (runProgram p).1 with log := [] } s fn = (.ok params, w0) ∧
      ∀ k ∈ hardGroupsL params, GroupBuilt (step p.ctx p.fns (runProgram p).1 i (.invoke s f info)).1 s k := by
  have hv : ValidReg (runProgram p).1 := (NBInv.runOps p.ctx p.fns p.ops 0 {} [] (NBInv.init _)).h.valid
  generalize (runProgram p).1 = st at hv hok ⊢
  have hv0 : ValidReg { st with log := [] } := hv
  simp only [step] at hok ⊢
  cases hf : fnOf p.fns f with
  | none => rw [hf] at hok; simp at hok
  | some fn =>
    rw [hf] at hok
    simp only at hok ⊢
    split
    · rename_i hs
      rw [if_pos hs] at hok
      obtain ⟨params, w0, hp, hall⟩ := invoke_groups_built p.ctx hv0 fn s info hok
      exact ⟨fn, params, w0, rfl, hp, hall⟩
    · rename_i hs; rw [if_neg hs] at hok; simp at hok

#print axioms C03_success_leaves_group_feeders_built
#print axioms C03_built_nodes_have_their_dependencies
#print axioms C03_success_leaves_dependencies_built
#print axioms C03_available_means_built
#print axioms C03_passive
#print axioms C03_only
#print axioms C03_dependencies_complete_first
#print axioms C03_invoke_registry
end Dig.C03
