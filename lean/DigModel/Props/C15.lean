import DigModel.Proofs.Parse
import DigModel.Proofs.ObjParse
/-
  C15 — Parameter and result objects are equivalent to positional forms.

  * `C15_object_build`: building a parameter object none of whose fields is a soft group is exactly building
    its fields one after the other, in declaration order, in the same scope — the same calls, the same state
    changes, the same error at the same point as for the positional parameter list — and the values are
    the fields of the object in declaration order (`C15_interleave_hard`);
  * `C15_list_build`: `BuildList` of a positional list is the same sequential build;
  * `C15_shallow_flat`: the pre-call check of an object is the concatenation of the checks of its fields
    (nested objects are entered — the point of seeded change C15);
  * `C15_dot_flat`: the Info entries of an object are the concatenation of its fields' entries, in order.
  Parse level (`Proofs/ObjParse.lean`):
  * `C15_object_parse`: a struct embedding `dig.In` whose other fields are exported and untagged parses to the object
    of exactly the positional parse of the fields' types — same descriptors in declaration order, same
    group-parameter graph nodes, same error at the same point (`C15_plain_field`: one field = one positional parameter);
  * `C15_variadic`: a variadic parameter is dropped: the signature parses as the one without it;
  * `C15_result_object_extract` / `_keys` / `_decorate_keys` / `_info`: a result object is extracted into the caches,
    checked for duplicate keys by Provide, turned into the key list of Decorate and reported in Info structs exactly
    like the list of its fields;
  * `C15_name_tag_is_option`, `C15_untagged_field_is_positional`: a `name` tag on a result-object field is the
    `dig.Name` option on the positional result; an untagged field is the positional result.
  (The token a value carries records the *slot* of the declared result it came from, which differs between the two
  encodings; everything dig looks at — keys, types, names, groups, flags — is the same.)
-/
namespace Dig.C15

theorem C15_interleave_hard : ∀ (fs : List Param) (vs : List Val), (∀ f ∈ fs, isSoft f = false) →
    vs.length = fs.length → interleave fs vs [] = vs := by
  intro fs
  induction fs with
  | nil => intro vs _ h; rw [List.length_eq_zero_iff.mp h]; rfl
  | cons f rest ih =>
    intro vs hs hl
    cases vs with
    | nil => cases hl
    | cons v vs' =>
      rw [interleave_cons_hard (hs f List.mem_cons_self),
        ih vs' (fun g hg => hs g (List.mem_cons_of_mem _ hg)) (Nat.succ.inj hl)]

private theorem filter_not_soft (fs : List Param) (h : ∀ f ∈ fs, isSoft f = false) :
    fs.filter (fun f => !isSoft f) = fs ∧ fs.filter isSoft = [] := by
  constructor
  · apply List.filter_eq_self.mpr; intro f hf; simp [h f hf]
  · apply List.filter_eq_nil_iff.mpr; intro f hf; simp [h f hf]

theorem C15_object_build (ctx : Ctx) (fuel ty : Nat) (fs : List Param) (c : Nat) (st : St)
    (h : ∀ f ∈ fs, isSoft f = false) :
    buildParam ctx (fuel + 1) (.object ty fs) c st =
      match mapM' fs (fun f => buildParam ctx fuel f c) st with
      | (.ok vs, st') => (.ok (.obj vs), st')
      | (.error e, st') => (.error e, st') := by
  obtain ⟨h1, h2⟩ := filter_not_soft fs h
  rw [buildParam_succ]
  simp only [h1, h2, EM.bind]
  cases hm : mapM' fs (fun f => buildParam ctx fuel f c) st with
  | mk r st' =>
    cases r with
    | error e => rfl
    | ok vs =>
      simp only [mapM', EM.pure]
      rw [C15_interleave_hard fs vs h ((mapM_length fs st).ok hm)]

theorem C15_list_build (ctx : Ctx) (fuel : Nat) (ps : List Param) (c : Nat) :
    buildList ctx (fuel + 1) ps c = mapM' ps fun p => buildParam ctx fuel p c := buildList_succ ctx fuel ps c

theorem C15_shallow_flat (st : St) (c ty : Nat) (fs : List Param) :
    missingOf st c (.object ty fs) = missingOfList st c fs := by
  simp only [missingOf]

theorem C15_dot_flat (ty : Nat) (fs : List Param) : dotParam (.object ty fs) = dotParams fs := by
  simp only [dotParam]

theorem C15_plain_field (env : TyEnv) (m : FieldMeta) (t : GoT) (hm : m.plain) (s : List PGDesc) :
    newParamField env (m, t) s = newParam env t s := newParamField_plain env m t hm s

theorem C15_object_parse (env : TyEnv) (i : Nat) (inM : FieldMeta) (fs : List (FieldMeta × GoT)) (ignore : Bool)
    (hout : isOutT (.strct i ((inM, .univ tIn) :: fs)) = false) (houtp : embeds tOutPtr (.strct i ((inM, .univ tIn) :: fs)) = false)
    (hin : isInT (.strct i ((inM, .univ tIn) :: fs)) = true) (hig : boolTag inM.tags.ignore = .ok ignore)
    (hfs : ∀ f ∈ fs, f.2.isUniv tIn = false ∧ f.1.plain) (s : List PGDesc) :
    newParam env (.strct i ((inM, .univ tIn) :: fs)) s =
      match newParamListAux env (fs.map (·.2)) s with
      | (.ok ps, s') => (.ok (.object i ps), s')
      | (.error e, s') => (.error e, s') :=
  newParam_object_plain env i inM fs ignore hout houtp hin hig hfs s

theorem C15_variadic (env : TyEnv) (fn : Fn) (hv : fn.variadic = true) :
    newParamList env fn = newParamList env { fn with ins := fn.ins.dropLast, variadic := false } :=
  newParamList_variadic env fn hv

theorem C15_result_object_extract (env : TyEnv) (deco : Bool) (r : Ret) (sc : ScopeSt) (ty : Nat) (fs : List Result)
    (rest : List RSlot) :
    extractSlots env deco r sc (.val (.object ty fs) :: rest) = extractSlots env deco r sc (fs.map RSlot.val ++ rest) :=
  extractSlots_object env deco r sc ty fs rest

theorem C15_result_object_keys (X : ScopeSt) (ty : Nat) (fs rest : List Result) (seen : List Key) :
    visitKeys X (.object ty fs :: rest) seen = visitKeys X (fs ++ rest) seen := visitKeys_object X ty fs rest seen

theorem C15_result_object_decorate_keys (env : TyEnv) (ty : Nat) (fs rest : List Result) :
    resultKeys env (.object ty fs :: rest) = resultKeys env (fs ++ rest) := resultKeys_object env ty fs rest

theorem C15_result_object_info (ty : Nat) (fs : List Result) (rest : List RSlot) :
    dotSlots (.val (.object ty fs) :: rest) = dotSlots (fs.map RSlot.val ++ rest) := dotSlots_object ty fs rest

theorem C15_name_tag_is_option (env : TyEnv) (o : ResultOpts) (slot : Nat) (m : FieldMeta) (t : GoT)
    (he : m.exported = true) (hg : m.tags.group = "") (hn : m.tags.name ≠ "") :
    newResultField env o slot (m, t) = newResult env { o with name := m.tags.name } slot t :=
  newResultField_name_tag env o slot m t he hg hn

theorem C15_untagged_field_is_positional (env : TyEnv) (o : ResultOpts) (slot : Nat) (m : FieldMeta) (t : GoT)
    (he : m.exported = true) (hg : m.tags.group = "") (hn : m.tags.name = "") :
    newResultField env o slot (m, t) = newResult env o slot t := newResultField_plain env o slot m t he hg hn

/-- a value-group *tag* on a field of a result object reads like the `dig.Group` *option* on a plain result of the
    field's type: the same parsed result (same key, same flattening) and the same acceptance, whenever the group string
    parses (the option wraps a parse error once more) -/
theorem C15_group_tag_is_option (env : TyEnv) (slot : Nat) (m : FieldMeta) (t : GoT) (g : GroupSpec)
    (hp : parseGroupString m.tags.group = .ok g) (hn : m.tags.name = "") (ho : boolTagLax m.tags.optional = false) :
    newResultGrouped env slot m t = newResultGroupOpt env slot t { name := "", group := m.tags.group, as := [] } := by
  unfold newResultGrouped newResultGroupOpt
  simp only [hp, hn, ho, asTypes, List.isEmpty_nil, Bool.not_true, Bool.and_false, Bool.false_eq_true, if_false,
    List.tail_nil, bne_self_eq_false]
  cases hf : g.flatten <;> cases hs : g.soft <;> simp

-- non-vacuity (a *test*, run by the evaluator at build time): `"g,flatten"` parses
#guard (parseGroupString "g,flatten").toOption == some { name := "g", flatten := true, soft := false }

/-- non-vacuity (a test): an untagged exported field is `plain` -/
example : ({ name := "A", exported := true, anon := false, tags := {} } : FieldMeta).plain := ⟨rfl, rfl, rfl, rfl⟩

#print axioms C15_plain_field
#print axioms C15_object_parse
#print axioms C15_variadic
#print axioms C15_result_object_extract
#print axioms C15_result_object_keys
#print axioms C15_result_object_decorate_keys
#print axioms C15_result_object_info
#print axioms C15_name_tag_is_option
#print axioms C15_untagged_field_is_positional
#print axioms C15_group_tag_is_option
#print axioms C15_interleave_hard
#print axioms C15_object_build
#print axioms C15_list_build
#print axioms C15_shallow_flat
#print axioms C15_dot_flat
end Dig.C15
