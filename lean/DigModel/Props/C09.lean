import DigModel.Proofs.TagGrammar
import DigModel.Proofs.Parse
import DigModel.Proofs.RegOKApi
/-
  C09 — Key identity: type+name and type+group never mix; duplicates rejected.

  * `C09_keys_distinct`: the container key is the triple (type, name, group) compared componentwise, so the
    unnamed, a named and a grouped key of one type are three different keys (stores and look-ups use `aget`
    on exactly that key: `aget_aset`);
  * `C09_as_only`: with `As`, a single result is registered under the listed interfaces only (first one as the
    result's type, the others as `As`), not under its concrete type; without `As` under its own type;
  * `C09_dup_single`: a result whose key (or one of its As keys) is already provided in the target scope, or
    occurs earlier in the same constructor's results, makes `findAndValidateResults` fail;
  * `C09_groups_free`: grouped results never cause a duplicate rejection;
  (a failing check rejects the Provide, which by C06_provide_unchanged leaves no trace.)
  * `C09_one_provider_per_key` / `C09_registered_under_declared_keys` / `C09_own_keys_distinct` (whole programs,
    invariant `RegInv` of every API step): in every reachable container two constructors listed under one key of
    one scope cannot both declare it as a single (type + name) key — duplicates never get in, whatever the
    order of Provides, rejections, Exports and scopes; every constructor is listed, in its home scope, under
    every single key its results declare; and a constructor's own single keys are pairwise distinct.
-/
namespace Dig.C09

theorem C09_keys_distinct (t : Nat) (n g : String) (hn : n ≠ "") (hg : g ≠ "") :
    ({ ty := t, name := "", group := "" } : Key) ≠ { ty := t, name := n, group := "" } ∧
    ({ ty := t, name := "", group := "" } : Key) ≠ { ty := t, name := "", group := g } ∧
    ({ ty := t, name := n, group := "" } : Key) ≠ { ty := t, name := "", group := g } := by
  refine ⟨?_, ?_, ?_⟩ <;> intro h <;> injection h with _ h2 h3
  · exact hn h2.symm
  · exact hg h3.symm
  · exact hn h2

theorem C09_as_only (env : TyEnv) (slot : Nat) (t : GoT) (o : ResultOpts) (r : Result)
    (h : newResultSingle env slot t o = .ok r) :
    ∃ ts, asTypes env t o.as = .ok ts ∧
      ((ts = [] ∧ r = .single slot t.id t.id o.name []) ∨
       (∃ a rest, ts = a :: rest ∧ r = .single slot t.id a o.name rest)) := by
  unfold newResultSingle at h
  split at h
  · cases h
  · injection h with h; exact ⟨[], ‹_›, .inl ⟨rfl, h.symm⟩⟩
  · injection h with h; exact ⟨_, ‹_›, .inr ⟨_, _, rfl, h.symm⟩⟩

/-- every interface kept by the As loop is implemented by the type and differs from it -/
theorem C09_as_sound (env : TyEnv) (t : GoT) : ∀ (as ts : List Nat), asTypes env t as = .ok ts →
    ∀ a ∈ ts, a ∈ as ∧ a ≠ t.id ∧ implementsT env t a = true := by
  intro as ts h a ha
  rw [asTypes_eq] at h
  split at h
  · rename_i hall
    injection h with h; subst h
    obtain ⟨hm, hne⟩ := List.mem_filter.mp ha
    have hne : a ≠ t.id := by simpa using hne
    exact ⟨hm, hne, by simpa [hne] using List.all_eq_true.mp hall a hm⟩
  · cases h

theorem C09_dup_single (target : ScopeSt) (slot decl ty : Nat) (name : String) (as : List Nat) (rest : List Result)
    (seen : List Key) (k : Key) (hk : k ∈ (ty :: as).map fun t => ({ ty := t, name := name, group := "" } : Key))
    (hdup : seen.contains k = true ∨ agetL target.providers k ≠ []) :
    ∃ e, visitKeys target (.single slot decl ty name as :: rest) seen = .error e := by
  rw [visitKeys]
  cases hc : visitKeys.chk target ((ty :: as).map fun t => ({ ty := t, name := name, group := "" } : Key)) seen with
  | error e => exact ⟨e, rfl⟩
  | ok seen' =>
    obtain ⟨hp, hs⟩ := (chk_ok target _ _ _ hc).2.1 k hk
    rcases hdup with hd | hd
    · exact absurd (List.contains_iff_mem.mp hd) hs
    · exact absurd hp hd

theorem C09_groups_free (target : ScopeSt) : ∀ (rs : List Result) (seen : List Key),
    (∀ r ∈ rs, ∃ slot decl ty group fl as, r = .grouped slot decl ty group fl as) →
    ∃ keys, visitKeys target rs seen = .ok keys := by
  intro rs
  induction rs with
  | nil => intro seen _; exact ⟨seen, by rw [visitKeys]⟩
  | cons r rest ih =>
    intro seen h
    obtain ⟨slot, decl, ty, group, fl, as, rfl⟩ := h r List.mem_cons_self
    rw [visitKeys]
    exact ih _ fun r' hr' => h r' (List.mem_cons_of_mem _ hr')

theorem C09_one_provider_per_key (p : Program) (S : Nat) (k : Key) (n n' : Nat)
    (h1 : n ∈ agetL ((runProgram p).1.scope S).providers k) (h2 : n' ∈ agetL ((runProgram p).1.scope S).providers k)
    (hk1 : k ∈ ctorKeys (runProgram p).1 n) (hk2 : k ∈ ctorKeys (runProgram p).1 n') : n = n' :=
  (regInv_program p).uniq S k n n' h1 h2 hk1 hk2

theorem C09_registered_under_declared_keys (p : Program) (n : Nat) (hn : n < (runProgram p).1.ctors.length)
    (k : Key) (hk : k ∈ ctorKeys (runProgram p).1 n) :
    n ∈ agetL ((runProgram p).1.scope ((runProgram p).1.ctor n).s).providers k :=
  (regInv_program p).regOK n hn k hk

theorem C09_own_keys_distinct (p : Program) (n : Nat) (hn : n < (runProgram p).1.ctors.length) :
    (ctorKeys (runProgram p).1 n).Nodup :=
  (regInv_program p).nodup n hn


/-- **the grammar of a group tag / `dig.Group` value** (what makes two group strings name the same group): accepted exactly
    when the first comma-separated component — the group's name, verbatim, blanks included — is not empty and every
    further component is `flatten` or `soft` -/
theorem C09_group_tag_grammar (s : String) (g : GroupSpec) :
    parseGroupString s = .ok g ↔
      ∃ name opts, s.splitOn "," = name :: opts ∧ name ≠ "" ∧ (∀ o ∈ opts, o = "flatten" ∨ o = "soft") ∧
        g = { name := name, flatten := opts.contains "flatten", soft := opts.contains "soft" } :=
  parseGroupString_ok_iff s g

theorem C09_group_tag_rejections (s : String) (e : DErr) (h : parseGroupString s = .error e) : e = .invalid0 ∨ e = .groupOpt :=
  parseGroupString_error s e h

#print axioms C09_group_tag_grammar
#print axioms C09_group_tag_rejections
#print axioms C09_keys_distinct
#print axioms C09_one_provider_per_key
#print axioms C09_registered_under_declared_keys
#print axioms C09_own_keys_distinct
#print axioms C09_as_only
#print axioms C09_as_sound
#print axioms C09_dup_single
#print axioms C09_groups_free
end Dig.C09
