import DigModel.Proofs.Rollback
import DigModel.Proofs.SameSim
import DigModel.Props.C14
/-
  C06 — A rejected Provide or Decorate leaves no trace.

  * `C06_provide_unchanged` (full strength for Provide): whenever Provide returns an error — unsuitable
    function, invalid options or tags, duplicate key, a cycle found in the target scope or in any descendant,
    with or without Export, in any state — the container afterwards equals the container before in every
    component (providers, decorators, caches, constructor / decorator / group-node tables with all their
    flags and orders, every scope's graph holder, node lists, logs, clock, execution counters) except the
    `isVerifiedAcyclic` flags, which only cause a re-verification. This is the statement whose failure was
    defect F1 (restoring the wrong scope) — the proof goes through the undo actually performed
    (`rollbackProvide`), not through discarding a copy.
  * `C06_decorate_unchanged` (= C14_rejected_decorate): after a rejected Decorate the container *is* the container
    before (`= st`): the graph nodes added while parsing its parameters are rolled back (repair of F15,
    `parse_rollback_eq`), and it registers no decorator — defect F2.
  * `C06_no_execution`: neither executes user code (C03_passive).
  * `C06_rejected_provide_is_invisible`, `C06_rejected_decorate_is_invisible` (full strength, whole programs, with
    or without DeferAcyclicVerification): take the container at the end of any history; if a Provide or Decorate on it
    is rejected, then **every** sequence of later operations gets, operation by operation, exactly the answers it
    gets on the container on which that call was never made — verdicts and error texts, executions and their
    arguments, callbacks, Info.  So the rejected function is never executed, provides and decorates nothing, blocks
    no later registration and causes no later error or panic.  Proof: the two containers are equal up to the
    `isVerifiedAcyclic` flags (`C06_provide_unchanged`), in every reachable container a flagged scope has an acyclic
    graph (`VA`, an invariant of every operation in both verification modes — `verified_means_acyclic`), and two
    such containers answer every operation alike and stay so (`step_simV`: the resolver does not read the flags,
    `comm_engine`; Invoke's check passes on the unflagged side because the graph is the same).
-/
namespace Dig.C06

theorem C06_provide_unchanged (ctx : Ctx) (fn : Fn) (st : St) (i s : Nat) (o : ProvideOpts) (e : DErr)
    (h : (apiProvide ctx fn st i s o).2.v = .err e) :
    EqButVerified st (apiProvide ctx fn st i s o).1 := by
  revert h
  exact apiProvide_cases ctx fn st i s o (P := fun x => x.2.v = .err e → EqButVerified st x.1)
    (fun _ _ hw _ => hw) (fun _ _ _ _ _ _ h => nomatch h) (fun _ _ _ _ _ _ h => nomatch h)

theorem C06_decorate_unchanged (ctx : Ctx) (fn : Fn) (st : St) (i s : Nat) (cb info : Bool)
    (h : ¬ ((apiDecorate ctx fn st i s cb info).2.v matches .ok)) :
    (apiDecorate ctx fn st i s cb info).1 = st := C14.C14_rejected_decorate ctx fn st i s cb info h

theorem C06_no_execution (ctx : Ctx) (fns : List Fn) (st : St) (i : Nat) (op : Op) (h : op.isInvoke = false) :
    (step ctx fns st i op).2.ev = [] := step_passive ctx fns st i op h

private theorem reachable_vinv (p : Program) : VInv p.ctx.cfg (runProgram p).1 :=
  VInv.runOps p.ctx p.fns p.ops 0 {} [] (VInv.init _)

private theorem eqV0_of_left {a b : St} (h : EqButVerified { a with log := [] } b) : EqV0 a b :=
  eqV_resetLog (a := { a with log := [] }) h

theorem C06_rejected_provide_is_invisible (p : Program) (i s f : Nat) (o : ProvideOpts) (e : DErr)
    (hrej : (step p.ctx p.fns (runProgram p).1 i (.provide s f o)).2.v = .err e)
    (later : List Op) (j : Nat) (acc : List OpRes) :
    (runOps p.ctx p.fns later j (step p.ctx p.fns (runProgram p).1 i (.provide s f o)).1 acc).2 =
      (runOps p.ctx p.fns later j (runProgram p).1 acc).2 := by
  have hinv := reachable_vinv p
  generalize (runProgram p).1 = st at hinv hrej ⊢
  refine runOps_simV p.ctx p.fns later j st _ acc ?_ hinv (hinv.step p.fns i _)
  revert hrej
  exact step_cases p.ctx p.fns st i (.provide s f o) (P := fun x => x.2.v = .err e → EqV0 st x.1)
    (fun _ h => nomatch h) (fun s _ o fn _ _ _ h => eqV0_of_left (C06_provide_unchanged p.ctx fn _ i s o e h))
    (fun _ _ _ _ _ h => nomatch h) (fun _ _ _ _ h => nomatch h) fun _ _ _ => eqV0_of_left (eqV_refl _)

theorem C06_rejected_decorate_is_invisible (p : Program) (i s f : Nat) (cb info : Bool) (e : DErr)
    (hrej : (step p.ctx p.fns (runProgram p).1 i (.decorate s f cb info)).2.v = .err e)
    (later : List Op) (j : Nat) (acc : List OpRes) :
    (runOps p.ctx p.fns later j (step p.ctx p.fns (runProgram p).1 i (.decorate s f cb info)).1 acc).2 =
      (runOps p.ctx p.fns later j (runProgram p).1 acc).2 := by
  have hinv := reachable_vinv p
  generalize (runProgram p).1 = st at hinv hrej ⊢
  refine runOps_simV p.ctx p.fns later j st _ acc ?_ hinv (hinv.step p.fns i _)
  revert hrej
  refine step_cases p.ctx p.fns st i (.decorate s f cb info) (P := fun x => x.2.v = .err e → EqV0 st x.1)
    (fun _ h => nomatch h) (fun _ _ _ _ h => nomatch h) (fun s _ cb info fn _ _ _ h => ?_) (fun _ _ _ _ h => nomatch h)
    fun _ _ _ => eqV0_of_left (eqV_refl _)
  have hne : ¬ ((apiDecorate p.ctx fn { st with log := [] } i s cb info).2.v matches .ok) := by
    rw [show (apiDecorate p.ctx fn { st with log := [] } i s cb info).2.v = .err e from h]; exact nofun
  rw [C06_decorate_unchanged p.ctx fn _ i s cb info hne]
  exact eqV0_of_left (eqV_refl _)

/-- in every reachable container a scope flagged `isVerifiedAcyclic` has an acyclic graph, in both verification modes -/
theorem C06_flags_are_honest (p : Program) (s : Nat) (hv : ((runProgram p).1.scope s).verified = true) :
    checkAcyclic (runProgram p).1 s = .acyclic := verified_means_acyclic p s hv


/-- non-vacuity (a *test*, run by the evaluator at build time, not a theorem): a second Provide of the same key is rejected;
    the Invoke that follows answers exactly as the Invoke of the history without that call -/
def demoTypes : List TypeInfo :=
  [{ id := 0, kind := .iface, elem := none, impl := [], isErr := true }, { id := 10, kind := .ptr, elem := none, impl := [], isErr := false }]
def demoFns : List Fn :=
  [{ id := 1, name := "c", nonfunc := none, ins := [], variadic := false, outs := [.univ 10] },
   { id := 2, name := "d", nonfunc := none, ins := [], variadic := false, outs := [.univ 10] },
   { id := 3, name := "i", nonfunc := none, ins := [.univ 10], variadic := false, outs := [] }]
def demoWith : Program :=
  { cfg := {}, types := demoTypes, fns := demoFns, script := [],
    ops := [.provide 0 1 {}, .provide 0 2 {}, .invoke 0 3 false], sameIds := true }
def demoWithout : Program := { demoWith with ops := [.provide 0 1 {}, .invoke 0 3 false] }
#guard (match ((runProgram demoWith).2.map (fun r => r.v)) with | [Verdict.ok, Verdict.err _, Verdict.ok] => true | _ => false)
#guard ((runProgram demoWith).2.getLast?.map fun r => (r.v matches .ok, r.ev.length)) ==
       ((runProgram demoWithout).2.getLast?.map fun r => (r.v matches .ok, r.ev.length))

#print axioms C06_rejected_provide_is_invisible
#print axioms C06_rejected_decorate_is_invisible
#print axioms C06_flags_are_honest
#print axioms C06_provide_unchanged
#print axioms C06_decorate_unchanged
#print axioms C06_no_execution
end Dig.C06
